import SnootyVerif.Model.Targets

namespace SnootyVerif.Targets

theorem normAux_idem (isSpace : Char → Bool) (hB : isSpace ' ' = true) (s : Str) :
    ∀ b, normAux isSpace b (normAux isSpace b s) = normAux isSpace b s := by
  induction s with
  | nil => intro b; rfl
  | cons c cs ih =>
    intro b
    by_cases hc : isSpace c = true <;> cases b <;> simp [normAux, hc, hB, ih]

theorem normAux_run (isSpace : Char → Bool) (ws t : Str) (hall : ∀ c ∈ ws, isSpace c = true) :
    normAux isSpace true (ws ++ t) = normAux isSpace true t := by
  induction ws with
  | nil => rfl
  | cons c cs ih => simp_all [normAux]

theorem normAux_ws (isSpace : Char → Bool) (ws t : Str) (hne : ws ≠ []) (hall : ∀ c ∈ ws, isSpace c = true) (b : Bool) :
    normAux isSpace b (ws ++ t) = (if b then [] else [' ']) ++ normAux isSpace true t := by
  cases ws with
  | nil => exact absurd rfl hne
  | cons c cs =>
    have := normAux_run isSpace cs t fun x hx => hall x (List.mem_cons_of_mem _ hx)
    cases b <;> simp [normAux, hall c, this]

theorem normAux_prefix (isSpace : Char → Bool) (a t1 t2 : Str)
    (h : ∀ b, normAux isSpace b t1 = normAux isSpace b t2) :
    ∀ b, normAux isSpace b (a ++ t1) = normAux isSpace b (a ++ t2) := by
  induction a with
  | nil => exact h
  | cons c cs ih => intro b; simp only [List.cons_append, normAux, ih]

theorem Db.get_add (db : Db) (k0 k : Str) (d : LocalDef) :
    (db.add k0 d).get k = if k0 = k then db.get k ++ [d] else db.get k := by
  induction db with
  | nil => simp [Db.add, Db.get]
  | cons kv rest ih =>
    by_cases h1 : kv.1 = k0
    · subst h1
      by_cases h2 : kv.1 = k <;> simp [Db.add, Db.get, h2]
    · by_cases h2 : kv.1 = k
      · subst h2
        simp [Db.add, Db.get, h1, Ne.symm h1]
      · simp [Db.add, Db.get, h1, h2, ih]

theorem Db.mem_get_add {db : Db} {k0 k : Str} {d d' : LocalDef} :
    d' ∈ (db.add k0 d).get k ↔ d' ∈ db.get k ∨ (d' = d ∧ k0 = k) := by
  rw [Db.get_add]; split <;> simp [*]

theorem mem_get_addAll {isSpace : Char → Bool} {dom role : Str} {d d' : LocalDef} {k : Str} {ts : List Str} :
    ∀ {db : Db}, d' ∈ (addAll isSpace dom role d db ts).get k ↔
      d' ∈ db.get k ∨ (d' = d ∧ ∃ t ∈ ts, mkKey dom role (normalize isSpace t) = k) := by
  induction ts with
  | nil => simp [addAll]
  | cons t ts ih => simp [addAll, ih, Db.mem_get_add, or_assoc, and_or_left]

theorem firstMaxBy_mem {α : Type} {f : α → Nat} {l : List α} {c : α} (h : firstMaxBy f l = some c) : c ∈ l := by
  induction l generalizing c with
  | nil => cases h
  | cons x xs ih =>
    simp only [firstMaxBy] at h
    split at h
    · cases h; exact List.mem_cons_self
    · next y hy =>
      split at h <;> cases h
      · exact List.mem_cons_of_mem _ (ih hy)
      · exact List.mem_cons_self

theorem defineLocal_ok {isSpace : Char → Bool} {db db' : Db} {dom role : Str} {ts : List Str}
    {page : String} {title : Inls} {hid : String}
    (h : defineLocal isSpace db dom role ts page title hid = .ok db') :
    ∃ canon ∈ ts, db' = addAll isSpace dom role ⟨canon, page, hid, title⟩ db ts := by
  unfold defineLocal at h
  split at h
  · cases h
  · cases h; exact ⟨_, firstMaxBy_mem ‹_›, rfl⟩

theorem defineLocal_mem {isSpace : Char → Bool} {db db' : Db} {dom role : Str} {ts : List Str}
    {page : String} {title : Inls} {hid : String}
    (h : defineLocal isSpace db dom role ts page title hid = .ok db') {k : Str} {d : LocalDef}
    (hd : d ∈ db'.get k) : d ∈ db.get k ∨ (d.page = page ∧ d.htmlId = hid) := by
  obtain ⟨_, _, rfl⟩ := defineLocal_ok h
  exact (mem_get_addAll.1 hd).imp_right fun ⟨h, _⟩ => h ▸ ⟨rfl, rfl⟩

theorem defineLocal_mono {isSpace : Char → Bool} {db db' : Db} {dom role : Str} {ts : List Str}
    {page : String} {title : Inls} {hid : String}
    (h : defineLocal isSpace db dom role ts page title hid = .ok db') {k : Str} {d : LocalDef}
    (hd : d ∈ db.get k) : d ∈ db'.get k := by
  obtain ⟨_, _, rfl⟩ := defineLocal_ok h
  exact mem_get_addAll.2 (.inl hd)

/- The walks below are by functional induction: it takes the branches of the model function in the order they are
written, and `h` then equates the result of the branch with `.ok _`, so that the branches which return an error close
with `cases h`. -/

theorem defineIdents_mem {isSpace : Char → Bool} {dom role : Str} {page hid : String} {idents : List Ident}
    {db db' : Db} (h : defineIdents isSpace dom role page hid db idents = .ok db')
    {k : Str} {d : LocalDef} (hd : d ∈ db'.get k) : d ∈ db.get k ∨ (d.page = page ∧ d.htmlId = hid) := by
  fun_induction defineIdents isSpace dom role page hid db idents
  case case1 => cases h; exact .inl hd
  case case2 => cases h
  case case3 h1 ih => exact (ih h).elim (defineLocal_mem h1) .inr

theorem pass4Items_mem {isSpace isWord : Char → Bool} {page : String} {reserved : List String} {items : List Item}
    {db db' : Db} {issued : List String} {out : List (Option String)}
    (h : pass4Items isSpace isWord page reserved db items issued = .ok (db', out))
    {k : Str} {d : LocalDef} (hd : d ∈ db'.get k) : d ∈ db.get k ∨ (d.page = page ∧ some d.htmlId ∈ out) := by
  fun_induction pass4Items isSpace isWord page reserved db items issued generalizing db' out
  case case1 => cases h; exact .inl hd
  case case3 h2 ih =>  -- a target that gets no id; `h2` is the walk of the rest
    cases h
    exact (ih h2 hd).imp_right (.imp_right (List.mem_cons_of_mem _))
  case case6 h1 _ _ h2 ih =>  -- a target with an id: `h1` registers its identifiers, `h2` is the walk of the rest
    cases h
    rcases ih h2 hd with h3 | h3
    · exact (defineIdents_mem h1 h3).imp_right fun h4 => ⟨h4.1, by simp [h4.2]⟩
    · exact .inr (h3.imp_right (List.mem_cons_of_mem _))
  case case7 ih => exact ih h hd
  all_goals cases h

theorem pass4_mem {isSpace isWord : Char → Bool} {ps : List Page} {db db' : Db} {outs : List (List (Option String))}
    (h : pass4 isSpace isWord db ps = .ok (db', outs)) {k : Str} {d : LocalDef} (hd : d ∈ db'.get k) :
    d ∈ db.get k ∨ ∃ pl ∈ ps.zip outs, pl.1.slug = d.page ∧ some d.htmlId ∈ pl.2 := by
  fun_induction pass4 isSpace isWord db ps generalizing db' outs
  case case1 => cases h; exact .inl hd
  case case4 p ps _ out1 h1 _ _ h2 ih =>  -- `h1` is the walk of page `p` (`pass4Page` unfolds to `pass4Items`), `h2` that of the others
    cases h
    rcases ih h2 hd with h3 | ⟨pl, hpl, h4⟩
    · exact (pass4Items_mem h1 h3).imp_right fun h5 => ⟨(p, out1), by simp, h5.1.symm, h5.2⟩
    · exact .inr ⟨pl, by simp [hpl], h4⟩
  all_goals cases h

end SnootyVerif.Targets
