import SnootyVerif.Proofs.Include

/-!
Positional specification of `bound_included_AST` ("exactly the part between the markers"), and the proof
that the cut meets it. The specification looks for the first marker in the flattened unit list, the code
for the last flagged sibling at each level; with at most one marker of each kind the two agree. The proof
follows the scan form of the cut (`cutList_cons`) and, on the side of the specification, what `between`
does when one child's units are put in front of the rest (`between_append_of_S`, `between_append_of_noS`).
-/
namespace SnootyVerif.Include

def Tag.isM (tg : Tag) : Bool := tg.isS || tg.isE

mutual
/-- content units in document order: a marker node counts as one unit, so does a childless node;
any other node stands for the units of its children -/
def units : T → List Tag
  | .node tg cs => if tg.isM || cs.isEmpty then [tg] else unitsL cs
def unitsL : List T → List Tag
  | [] => []
  | n :: ns => units n ++ unitsL ns
end

mutual
/-- marker nodes (comments / label targets) contain no further markers -/
def atomic : T → Bool
  | .node tg cs => (if tg.isM then !hasSL cs && !hasEL cs else true) && atomicL cs
def atomicL : List T → Bool
  | [] => true
  | n :: ns => atomic n && atomicL ns
end

def pS (t : Tag) : Bool := t.isS
def pE (t : Tag) : Bool := t.isE

/-- everything from the start marker on (whole list if there is no start marker) -/
def fromS (L : List Tag) : List Tag := if L.any pS then L.dropWhile (fun t => !pS t) else L

def takeThrough (p : Tag → Bool) : List Tag → List Tag
  | [] => []
  | x :: xs => if p x then [x] else x :: takeThrough p xs

/-- everything up to and including the end marker (whole list if there is none) -/
def toE (L : List Tag) : List Tag := if L.any pE then takeThrough pE L else L

/-- the specification: the units between the two markers, markers included -/
def between (L : List Tag) : List Tag := toE (fromS L)

/-- an end marker strictly before a start marker -/
def reversed : List Tag → Bool
  | [] => false
  | x :: xs => (pE x && xs.any pS) || reversed xs

theorem any_takeThrough {p q : Tag → Bool} (A : List Tag) (h : A.any q = false) :
    (takeThrough p A).any q = false := by
  induction A with
  | nil => rfl
  | cons a A ih =>
    simp only [List.any_cons, Bool.or_eq_false_iff] at h
    cases hp : p a <;> simp [takeThrough, hp, h.1, ih h.2]

theorem any_dropWhile_self {p : Tag → Bool} (A : List Tag) (h : A.any p = true) :
    (A.dropWhile (fun t => !p t)).any p = true := by
  simpa [List.all_eq_not_any_not, h] using List.any_dropWhile (p := fun t => !p t) (l := A)

theorem reversed_append (A B : List Tag) :
    reversed (A ++ B) = (reversed A || (A.any pE && B.any pS) || reversed B) := by
  induction A with
  | nil => simp [reversed]
  | cons a A ih =>
    simp only [List.cons_append, reversed, ih, List.any_append, List.any_cons]
    cases pE a <;> cases B.any pS <;> simp [Bool.or_assoc, Bool.or_left_comm]

theorem takeThrough_append (p : Tag → Bool) (A B : List Tag) :
    takeThrough p (A ++ B) = if A.any p then takeThrough p A else A ++ takeThrough p B := by
  induction A with
  | nil => rfl
  | cons a A ih => cases h : p a <;> simp [takeThrough, h, ih] <;> split <;> rfl

theorem fromS_none {L : List Tag} (h : L.any pS = false) : fromS L = L := by simp [fromS, h]

theorem toE_none {L : List Tag} (h : L.any pE = false) : toE L = L := by simp [toE, h]

theorem toE_append (A B : List Tag) : toE (A ++ B) = if A.any pE then toE A else A ++ toE B := by
  cases hA : A.any pE <;> cases hB : B.any pE <;> simp [toE, hA, hB, takeThrough_append]

theorem dropWhile_not_eq_nil {p : Tag → Bool} {A : List Tag} : A.dropWhile (fun t => !p t) = [] ↔ A.any p = false := by
  induction A with
  | nil => simp
  | cons a A ih => cases h : p a <;> simp [h, ih]

theorem fromS_append (A B : List Tag) :
    fromS (A ++ B) = if A.any pS then fromS A ++ B else if B.any pS then fromS B else A ++ B := by
  cases hA : A.any pS <;> cases hB : B.any pS <;>
    simp [fromS, hA, hB, List.dropWhile_append, dropWhile_not_eq_nil]

theorem any_fromS_pE (U : List Tag) (h : reversed U = false) : (fromS U).any pE = U.any pE := by
  induction U with
  | nil => rfl
  | cons a U ih =>
    simp only [reversed, Bool.or_eq_false_iff, Bool.and_eq_false_iff] at h
    cases ha : pS a
    · cases hU : U.any pS
      · simp [fromS, ha, hU]
      · -- `a` is dropped, and is no end marker since a start marker follows
        have hE : pE a = false := by simpa [hU] using h.1
        have ih := ih h.2
        simp only [fromS, hU, if_true] at ih
        simp [fromS, ha, hU, hE, ih]
    · simp [fromS, ha]

theorem between_append_of_S {U L : List Tag} (hU : U.any pS = false) (hL : L.any pS = true) :
    between (U ++ L) = between L := by
  simp [between, fromS_append, hU, hL]

theorem between_append_of_noS {U L : List Tag} (hL : L.any pS = false) (hU : reversed U = false) :
    between (U ++ L) = if U.any pE then between U else between U ++ between L := by
  have hUL : fromS (U ++ L) = fromS U ++ L := by
    rw [fromS_append, hL]
    cases h : U.any pS <;> simp [fromS_none, h]
  simp only [between, hUL, fromS_none hL, toE_append, any_fromS_pE U hU]
  cases h : U.any pE
  · rw [toE_none ((any_fromS_pE U hU).trans h)]
  · rfl

theorem between_singleton (tg : Tag) : between [tg] = [tg] := by
  unfold between fromS toE
  cases h1 : pS tg <;> cases h2 : pE tg <;> simp [h1, h2, takeThrough, List.dropWhile]

mutual
theorem units_ne_nil : ∀ t : T, units t ≠ []
  | .node tg cs => by
    simp only [units]
    split
    · simp
    · rename_i h
      exact unitsL_ne_nil cs (by rintro rfl; simp at h)
theorem unitsL_ne_nil : ∀ ns : List T, ns ≠ [] → unitsL ns ≠ []
  | [], h => absurd rfl h
  | n :: ns, _ => by simp [unitsL, units_ne_nil n]
end

theorem unitsL_append (A B : List T) : unitsL (A ++ B) = unitsL A ++ unitsL B := by
  induction A with
  | nil => rfl
  | cons a A ih => simp [unitsL, ih]

theorem atomicL_append (A B : List T) : atomicL (A ++ B) = (atomicL A && atomicL B) := by
  induction A with
  | nil => simp [atomicL]
  | cons a A ih => simp [atomicL, ih, Bool.and_assoc]

theorem countP_append_le_one {p : Tag → Bool} {A B : List Tag} (h : (A ++ B).countP p ≤ 1) :
    A.countP p ≤ 1 ∧ B.countP p ≤ 1 ∧ (A.any p = false ∨ B.any p = false) := by
  rw [List.countP_append] at h
  refine ⟨by omega, by omega, ?_⟩
  have hz : ∀ L : List Tag, L.countP p = 0 → L.any p = false := fun L h0 => by simpa using h0
  rcases Nat.eq_zero_or_pos (A.countP p) with h0 | h0
  · exact .inl (hz A h0)
  · exact .inr (hz B (by omega))

mutual
theorem cutNode_meets : ∀ t : T, atomic t = true → (units t).countP pS ≤ 1 → (units t).countP pE ≤ 1 →
    match cutNode t with
    | .error _ => reversed (units t) = true
    | .ok r => reversed (units t) = false ∧ units r.1 = between (units t) ∧
        r.2.1 = (units t).any pS ∧ r.2.2 = (units t).any pE
  | .node tg cs, ha, hcS, hcE => by
    simp only [atomic, Bool.and_eq_true] at ha
    rw [cutNode_node]
    by_cases hm : tg.isM = true
    · -- a marker node: nothing below it is a marker, the node is kept whole
      simp only [hm, if_true, Bool.and_eq_true, Bool.not_eq_true'] at ha
      rw [cutList_none cs ha.1.1 ha.1.2]
      simp [units, hm, reversed, between_singleton, pS, pE]
    · have hs : tg.isS = false ∧ tg.isE = false := by simpa [Tag.isM] using hm
      cases cs with
      | nil => simp [cutList_nil, units, reversed, between_singleton, pS, pE, hs]
      | cons c cs' =>
        have hu : units (.node tg (c :: cs')) = unitsL (c :: cs') := by simp [units, hm]
        rw [hu] at hcS hcE ⊢
        have ih := cutList_meets (c :: cs') ha.2 hcS hcE
        revert ih
        cases cutList (c :: cs') with
        | error e => exact id
        | ok v =>
          rintro ⟨hr, hu', hS, hE, hne⟩
          have : v.1.isEmpty = false := by simpa using hne (by simp)
          exact ⟨hr, by simp [units, hm, this, hu'], by simp [hs, hS], by simp [hs, hE]⟩
theorem cutList_meets : ∀ ns : List T, atomicL ns = true → (unitsL ns).countP pS ≤ 1 → (unitsL ns).countP pE ≤ 1 →
    match cutList ns with
    | .error _ => reversed (unitsL ns) = true
    | .ok v => reversed (unitsL ns) = false ∧ unitsL v.1 = between (unitsL ns) ∧
        v.2.1 = (unitsL ns).any pS ∧ v.2.2 = (unitsL ns).any pE ∧
        -- needed one level up: a node emptied of its children would count as a unit itself
        (ns ≠ [] → v.1 ≠ [])
  | [], _, _, _ => by simp [cutList_nil, unitsL, reversed, between, fromS, toE]
  | n :: ns, ha, hcS, hcE => by
    simp only [atomicL, Bool.and_eq_true] at ha
    simp only [unitsL] at hcS hcE ⊢
    obtain ⟨cS1, cS2, xS⟩ := countP_append_le_one hcS
    obtain ⟨cE1, cE2, xE⟩ := countP_append_le_one hcE
    have ih1 := cutNode_meets n ha.1 cS1 cE1
    have ih2 := cutList_meets ns ha.2 cS2 cE2
    rw [cutList_cons, reversed_append]
    revert ih1
    cases cutNode n with
    | error e => intro ih1; simp [ih1]
    | ok r =>
      rintro ⟨hr1, hu1, hS1, hE1⟩
      revert ih2
      cases cutList ns with
      | error e => intro ih2; simp [ih2]
      | ok v =>
        rintro ⟨hr2, hu2, hS2, hE2, hne⟩
        simp only [scan, hS1, hE1, hS2, hE2, hr1, hr2, List.any_append]
        cases hlS : (unitsL ns).any pS
        · -- no start marker further right: `n` is kept, and so is the rest unless `n` holds the end marker
          rw [between_append_of_noS hlS hr1]
          cases huE : (units n).any pE
          · simp [unitsL, hu1, hu2]
          · have hlE : (unitsL ns).any pE = false := by simpa [huE] using xE
            simp [hlE, unitsL, hu1]
        · -- the start marker is further right: `n` goes, and an end marker in `n` is the reversal
          have huS : (units n).any pS = false := by simpa [hlS] using xS
          rw [between_append_of_S huS hlS]
          cases huE : (units n).any pE
          · have : ns ≠ [] := by rintro rfl; simp [unitsL] at hlS
            simp [hu2, huS, hne this]
          · have hlE : (unitsL ns).any pE = false := by simpa [huE] using xE
            simp [hlE]
end

theorem cutNode_spec : ∀ t : T, atomic t = true → (units t).countP pS ≤ 1 → (units t).countP pE ≤ 1 →
    reversed (units t) = false →
    ∃ t', cutNode t = .ok (t', hasS t, hasE t) ∧ units t' = between (units t) := by
  intro t ha hcS hcE hrev
  have h := cutNode_meets t ha hcS hcE
  cases hc : cutNode t with
  | error e => simp [hc, hrev] at h
  | ok r =>
    rw [hc] at h
    have fl := cutNode_flags t r hc
    exact ⟨r.1, by rw [← fl.1, ← fl.2], h.2.1⟩

theorem cutNode_reversed : ∀ t : T, atomic t = true → (units t).countP pS ≤ 1 → (units t).countP pE ≤ 1 →
    reversed (units t) = true → ∃ m, cutNode t = .error m := by
  intro t ha hcS hcE hrev
  have h := cutNode_meets t ha hcS hcE
  cases hc : cutNode t with
  | error e => exact ⟨e, rfl⟩
  | ok r => simp [hc, hrev] at h

end SnootyVerif.Include
