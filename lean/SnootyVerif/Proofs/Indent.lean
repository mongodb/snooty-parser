import SnootyVerif.Model.Indent
/-! Lemmas for `Model/Indent.lean`: the loop of `get_indented` advances to the first line that `stops` it, so
what it returns is described by `List.findIdx` and `List.min?`; `TrimmedOf` for "nothing moves between lines". -/
namespace SnootyVerif.Indent

/-! ## the scanning loop -/

/-- the loop of `get_indented` ends on this line: it is unindented, or blank with `until_blank` -/
def stops (isSpace : Char → Bool) (ub : Bool) (bi : Option Nat) (l : Line) : Bool :=
  unindented isSpace bi l || (ub && isBlank isSpace l)

theorem stops_eq_true {isSpace : Char → Bool} {ub : Bool} {bi : Option Nat} {l : Line} :
    stops isSpace ub bi l = true ↔ unindented isSpace bi l = true ∨ (ub = true ∧ isBlank isSpace l = true) := by
  simp [stops]

theorem stops_eq_false {isSpace : Char → Bool} {ub : Bool} {bi : Option Nat} {l : Line} :
    stops isSpace ub bi l = false ↔ unindented isSpace bi l = false ∧ (ub = true → isBlank isSpace l = false) := by
  simp [stops]

/-- the loop body, on a line that stops it and (`scan_cons_go`) on one that does not: `scan` is unfolded only here -/
theorem scan_cons_stop {isSpace : Char → Bool} {ub : Bool} {bi : Option Nat} {l : Line}
    (h : stops isSpace ub bi l = true) (prev : Option Line) (ind : Option Nat) (rest : List Line) :
    scan isSpace ub bi prev ind (l :: rest) =
      ⟨0, ind, !unindented isSpace bi l || prev.any (isBlank isSpace)⟩ := by
  cases hu : unindented isSpace bi l
  · have hb := (stops_eq_true.1 h).resolve_left (by simp [hu])
    simp [scan, hu, hb]
  · cases prev <;> simp [scan, hu]

theorem scan_cons_go {isSpace : Char → Bool} {ub : Bool} {bi : Option Nat} {l : Line}
    (h : stops isSpace ub bi l = false) (prev : Option Line) (ind : Option Nat) (rest : List Line) :
    scan isSpace ub bi prev ind (l :: rest) =
      let r := scan isSpace ub bi (some l)
        (if bi.isNone && !isBlank isSpace l then minOpt ind (indentOf isSpace l) else ind) rest
      ⟨r.n + 1, r.indent, r.blankFinish⟩ := by
  rw [stops_eq_false] at h
  simp only [scan, h.1, Bool.false_eq_true, if_false]
  cases hb : isBlank isSpace l <;> simp_all

theorem scan_n (isSpace : Char → Bool) (ub : Bool) (bi : Option Nat) : ∀ (rest : List Line) (prev : Option Line)
    (ind : Option Nat), (scan isSpace ub bi prev ind rest).n = rest.findIdx (stops isSpace ub bi)
  | [], _, _ => rfl
  | l :: rest, prev, ind => by
    cases h : stops isSpace ub bi l
    · simp [scan_cons_go h, List.findIdx_cons, h, scan_n]
    · simp [scan_cons_stop h, List.findIdx_cons, h]

theorem scan_eof (isSpace : Char → Bool) (ub : Bool) (bi : Option Nat) : ∀ (rest : List Line) (prev : Option Line)
    (ind : Option Nat), (∀ l ∈ rest, stops isSpace ub bi l = false) →
      (scan isSpace ub bi prev ind rest).blankFinish = true
  | [], _, _, _ => rfl
  | l :: rest, prev, ind, h => by
    rw [scan_cons_go (h l List.mem_cons_self)]
    exact scan_eof isSpace ub bi rest _ _ fun l hl => h l (List.mem_cons_of_mem _ hl)

/-- with a known block indent the indent is never recomputed -/
theorem scan_indent_some (isSpace : Char → Bool) (ub : Bool) (b : Nat) : ∀ (rest : List Line) (prev : Option Line)
    (ind : Option Nat), (scan isSpace ub (some b) prev ind rest).indent = ind
  | [], _, _ => rfl
  | l :: rest, prev, ind => by
    cases h : stops isSpace ub (some b) l
    · rw [scan_cons_go h]; exact scan_indent_some isSpace ub b rest _ _
    · rw [scan_cons_stop h]

/-- the indentations `get_indented` takes the minimum of: those of the non-blank lines -/
def indents (isSpace : Char → Bool) (ls : List Line) : List Nat :=
  (ls.filter (fun l => !isBlank isSpace l)).map (indentOf isSpace)

theorem indents_min?_eq_some {isSpace : Char → Bool} {ls : List Line} {m : Nat} :
    (indents isSpace ls).min? = some m ↔
      (∃ l ∈ ls, isBlank isSpace l = false ∧ indentOf isSpace l = m) ∧
        ∀ l ∈ ls, isBlank isSpace l = false → m ≤ indentOf isSpace l := by
  simp only [indents, List.min?_eq_some_iff, List.mem_map, List.mem_filter, Bool.not_eq_true', and_assoc]
  exact and_congr_right fun _ => ⟨fun h l hl hb => h _ ⟨l, hl, hb, rfl⟩, fun h _ ⟨l, hl, hb, e⟩ => e ▸ h l hl hb⟩

theorem indents_min?_eq_none {isSpace : Char → Bool} {ls : List Line} :
    (indents isSpace ls).min? = none ↔ ∀ l ∈ ls, isBlank isSpace l = true := by
  simp [indents, List.min?_eq_none_iff]

theorem min?_minOpt (ind : Option Nat) (k : Nat) (ks : List Nat) :
    ((minOpt ind k).toList ++ ks).min? = (ind.toList ++ k :: ks).min? := by
  cases ind
  · rfl
  · simp only [minOpt, Option.toList_some, List.singleton_append, List.min?_cons', List.foldl_cons]

theorem scan_indent_none (isSpace : Char → Bool) (ub : Bool) : ∀ (rest : List Line) (prev : Option Line)
    (ind : Option Nat), (scan isSpace ub none prev ind rest).indent =
      (ind.toList ++ indents isSpace (rest.take (scan isSpace ub none prev ind rest).n)).min?
  | [], _, ind => by cases ind <;> simp [scan, indents]
  | l :: rest, prev, ind => by
    cases h : stops isSpace ub none l
    · rw [scan_cons_go h]
      simp only [List.take_succ_cons, scan_indent_none isSpace ub rest]
      cases hb : isBlank isSpace l <;> simp [indents, hb, min?_minOpt]
    · rw [scan_cons_stop h]; cases ind <;> simp [indents]

/-! ## `get_indented` -/

/-- the first line the loop examines: the line at `start` is taken unseen when a first indent is known -/
def scanStart (start : Nat) (bi fi : Option Nat) : Nat := if (fi.or bi).isSome then start + 1 else start

/-- the definition with the first indent in force named: `first_indent`, else `block_indent` -/
theorem getIndented_eq (isSpace : Char → Bool) (data : List Line) (start : Nat) (ub si : Bool)
    (bi fi : Option Nat) :
    getIndented isSpace data start ub si bi fi =
      let s := scan isSpace ub bi (if (fi.or bi).isSome then data[start]? else none) bi
        (data.drop (scanStart start bi fi))
      ⟨stripBlock s.indent si (fi.or bi).isSome
          (dropFirst (fi.or bi) ((data.take (scanStart start bi fi + s.n)).drop start)),
        s.indent.getD 0, s.blankFinish, scanStart start bi fi + s.n⟩ := by
  cases bi <;> cases fi <;> rfl

theorem getIndented_stop (isSpace : Char → Bool) (data : List Line) (start : Nat) (ub si : Bool)
    (bi fi : Option Nat) :
    (getIndented isSpace data start ub si bi fi).stop =
      scanStart start bi fi + (data.drop (scanStart start bi fi)).findIdx (stops isSpace ub bi) := by
  simp only [getIndented_eq, scan_n]

/-- no line the loop advanced over would have stopped it -/
theorem getIndented_taken (isSpace : Char → Bool) (data : List Line) (start : Nat) (ub si : Bool)
    (bi fi : Option Nat) :
    ∀ l ∈ (data.take (getIndented isSpace data start ub si bi fi).stop).drop (scanStart start bi fi),
      unindented isSpace bi l = false ∧ (ub = true → isBlank isSpace l = false) := by
  intro l hl
  rw [getIndented_stop, ← List.take_drop] at hl
  obtain ⟨j, hj, rfl⟩ := List.mem_take_iff_getElem.1 hl
  exact stops_eq_false.1 (List.not_of_lt_findIdx (by omega))

/-- the loop ends before the end of the input only on a line that stops it -/
theorem getIndented_stops (isSpace : Char → Bool) (data : List Line) (start : Nat) (ub si : Bool)
    (bi fi : Option Nat) (h : (getIndented isSpace data start ub si bi fi).stop < data.length) :
    unindented isSpace bi data[(getIndented isSpace data start ub si bi fi).stop] = true ∨
      (ub = true ∧ isBlank isSpace data[(getIndented isSpace data start ub si bi fi).stop] = true) := by
  rw [← stops_eq_true]
  simp only [getIndented_stop] at h ⊢
  rw [← List.getElem_drop (h := by rw [List.length_drop]; omega)]
  exact List.findIdx_getElem

theorem getIndented_eof (isSpace : Char → Bool) (data : List Line) (start : Nat) (ub si : Bool)
    (bi fi : Option Nat) (h : data.length ≤ (getIndented isSpace data start ub si bi fi).stop) :
    (getIndented isSpace data start ub si bi fi).blankFinish = true := by
  rw [getIndented_stop] at h
  have hn : (data.drop (scanStart start bi fi)).findIdx (stops isSpace ub bi) = _ :=
    Nat.le_antisymm List.findIdx_le_length (by rw [List.length_drop]; omega)
  simp only [getIndented_eq]
  exact scan_eof _ _ _ _ _ _ (List.findIdx_eq_length.1 hn)

theorem getIndented_indent_some (isSpace : Char → Bool) (data : List Line) (start b : Nat) (ub si : Bool)
    (fi : Option Nat) : (getIndented isSpace data start ub si (some b) fi).indent = b := by
  simp only [getIndented_eq, scan_indent_some, Option.getD_some]

/-- without a known block indent, `indent` is the least indentation of the non-blank lines the loop advanced over -/
theorem getIndented_indent_none (isSpace : Char → Bool) (data : List Line) (start : Nat) (ub si : Bool)
    (fi : Option Nat) :
    (getIndented isSpace data start ub si none fi).indent =
      (indents isSpace ((data.take (getIndented isSpace data start ub si none fi).stop).drop
        (scanStart start none fi))).min?.getD 0 := by
  simp only [getIndented_eq, ← List.take_drop, scan_indent_none]
  rfl

/-- the guard `if indent and strip_indent` only saves work: trimming 0 columns changes nothing -/
theorem stripBlock_eq (ind : Option Nat) (si first : Bool) (block : List Line) :
    stripBlock ind si first block =
      trimLeft (if si then ind.getD 0 else 0) (if first then 1 else 0) none block := by
  cases ind with
  | none => cases si <;> simp [stripBlock, trimLeft]
  | some i =>
    cases si
    · simp [stripBlock, trimLeft]
    · by_cases h0 : i = 0 <;> simp [stripBlock, h0, trimLeft]

/-- the block for every parameter combination: the slice, the first line cut at the first indent if one is known
(`first_indent`, else `block_indent`), the other lines at `indent` if `strip_indent` -/
theorem getIndented_block (isSpace : Char → Bool) (data : List Line) (start : Nat) (ub si : Bool)
    (bi fi : Option Nat) :
    let r := getIndented isSpace data start ub si bi fi
    r.block = trimLeft (if si then r.indent else 0) (if (fi.or bi).isSome then 1 else 0) none
      (dropFirst (fi.or bi) ((data.take r.stop).drop start)) := by
  simp only [getIndented_eq, stripBlock_eq]

/-- `get_known_indented`: the first line is cut by `first_indent = block_indent`, the others by `trim_left`: all alike -/
theorem trimLeft_dropFirst (b : Nat) (block : List Line) :
    trimLeft b 1 none (dropFirst (some b) block) = block.map (·.drop b) := by
  cases block <;> rfl

/-! ## "block line i is a right part of source line i" -/

/-- `ys` is `xs` with some number of leading characters removed from each line -/
def TrimmedOf : List Line → List Line → Prop
  | [], [] => True
  | x :: xs, y :: ys => (∃ k, y = x.drop k) ∧ TrimmedOf xs ys
  | _, _ => False

theorem TrimmedOf.refl : ∀ xs, TrimmedOf xs xs
  | [] => trivial
  | x :: xs => ⟨⟨0, by simp⟩, TrimmedOf.refl xs⟩

theorem TrimmedOf.length : ∀ xs ys, TrimmedOf xs ys → ys.length = xs.length
  | [], [], _ => rfl
  | x :: xs, y :: ys, ⟨_, h⟩ => by simp [TrimmedOf.length xs ys h]

theorem TrimmedOf.getElem : ∀ xs ys, TrimmedOf xs ys → ∀ (i : Nat) (h : i < ys.length) (h' : i < xs.length),
    ∃ k, ys[i] = (xs[i]).drop k
  | _ :: _, _ :: _, ⟨hk, _⟩, 0, _, _ => hk
  | _ :: xs, _ :: ys, ⟨_, ht⟩, i + 1, h, h' =>
    TrimmedOf.getElem xs ys ht i (Nat.lt_of_succ_lt_succ h) (Nat.lt_of_succ_lt_succ h')

theorem TrimmedOf.trimLeft (i : Nat) : ∀ (j : Nat) xs ys, TrimmedOf xs ys → TrimmedOf xs (trimLeft i j none ys)
  | _, [], [], _ => by simp [Indent.trimLeft, TrimmedOf]
  | 0, _ :: xs, _ :: ys, ⟨⟨k, hk⟩, h⟩ => ⟨⟨k + i, by simp [hk]⟩, TrimmedOf.trimLeft i 0 xs ys h⟩
  | j + 1, _ :: xs, _ :: ys, ⟨hk, h⟩ => ⟨hk, TrimmedOf.trimLeft i j xs ys h⟩

theorem TrimmedOf.dropFirst (fi : Option Nat) : ∀ xs ys, TrimmedOf xs ys → TrimmedOf xs (dropFirst fi ys)
  | x :: xs, y :: ys, ⟨⟨k, hk⟩, h⟩ => by
    cases fi with
    | none => exact ⟨⟨k, hk⟩, h⟩
    | some f => exact ⟨⟨k + f, by simp [hk, List.drop_drop]⟩, h⟩
  | [], [], _ => by cases fi <;> exact trivial

theorem getIndented_trimmed (isSpace : Char → Bool) (data : List Line) (start : Nat) (ub si : Bool)
    (bi fi : Option Nat) :
    TrimmedOf ((data.take (getIndented isSpace data start ub si bi fi).stop).drop start)
      (getIndented isSpace data start ub si bi fi).block := by
  rw [getIndented_block]
  exact ((TrimmedOf.refl _).dropFirst _ _ _).trimLeft _ _ _ _

/-! ## the `StateMachine` wrappers -/

theorem stripTop_eq (isSpace : Char → Bool) : ∀ (b : List Line) (off : Nat),
    stripTop isSpace b off =
      (b.drop (b.findIdx (fun l => !isBlank isSpace l)), off + b.findIdx (fun l => !isBlank isSpace l))
  | [], _ => rfl
  | l :: ls, off => by
    cases h : isBlank isSpace l <;> simp [stripTop, List.findIdx_cons, h, stripTop_eq isSpace ls]
    omega

end SnootyVerif.Indent
