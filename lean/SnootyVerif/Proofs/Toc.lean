import SnootyVerif.Model.Toc

/-!
# Lemmas about the toctree model

An entry either makes `find_toctree_nodes` expand a page or it does not (`opens`, with `lost` and `leaf` for what it
adds otherwise); `walkList_cons` is the one place where the branches of `walkList` are looked at. `Walk` is the fuel-free
big-step semantics in these terms, a relation between the pages visited before, the forest, and the pages newly visited
and entries newly reported; every run of `walk` that returns is a `Walk` (`walk_sound`), and the facts about
`build_toctree` are inductions over `Walk` with its three cases. `get_paths` is reasoned about through `chains`, the
same function without its two accumulators.

The statements in `Properties/C10.lean` are written in `Tree.head`, `emitOf`, `nodesL`, `isExpanded`, `expandedL`, `Step`,
`Reach`, `Occ` and `LeavesOk`, that of `walk_total` in `keys` and `Inv`; each is defined here in front of its lemmas, and
every other definition of this file serves the proofs only.
-/
namespace SnootyVerif.Toc

-- Nothing here depends on what `cleanSlug` computes. Left reducible it is a trap: whenever `cases`, `exact` or `simp` must
-- compare `cleanSlug s` with a term that is not syntactically the same (a variable under a constructor, a projection
-- `(o, cleanSlug s).2`), the unifier first unfolds it (stripping, `splitext`, the table of extensions) on a symbolic
-- argument, and one such step can cost more than all the rest of this file.
attribute [local irreducible] cleanSlug

def keys (P : Pages) : List Slug := P.map (·.slug)

theorem lookup_slug {P : Pages} {s : Slug} {pg : Page} (h : lookup P s = some pg) : pg.slug = s := by
  simpa using List.find?_some h

theorem lookup_mem {P : Pages} {s : Slug} {pg : Page} (h : lookup P s = some pg) : pg ∈ P :=
  List.mem_of_find?_eq_some h

theorem lookup_key {P : Pages} {s : Slug} {pg : Page} (h : lookup P s = some pg) : pg.slug ∈ keys P :=
  List.mem_map.2 ⟨pg, lookup_mem h, rfl⟩

theorem lookup_self {P : Pages} {s : Slug} {pg : Page} (h : lookup P s = some pg) :
    lookup P pg.slug = some pg := by rw [lookup_slug h]; exact h

/-- kind, label and title of a node (what one toctree entry contributes) -/
def Tree.head : Tree → Kind × Str × Option Str
  | .node k l t _ => (k, l, t)

/-- the node an entry gives rise to; `none`: nothing is emitted (empty entry, or no such page) -/
def emitOf (P : Pages) (e : Entry) : Option (Kind × Str × Option Str) :=
  match classify e with
  | .empty => none
  | .url u => some (.url, u, truthy e.title)
  | .project p => some (.project, p, truthy e.title)
  | .page s => (lookup P (cleanSlug s)).map (fun pg => (.page, pg.slug, titleOf e pg))

/-- the page that `e` makes the walk expand when the pages `V` have been visited -/
def opens (P : Pages) (V : List Slug) (e : Entry) : Option Page :=
  match classify e with
  | .page s =>
    match lookup P (cleanSlug s) with
    | some pg => if pg.slug ∈ V then none else some pg
    | none => none
  | _ => none

/-- what `e`, found on page `o`, adds to `missing` -/
def lost (P : Pages) (o : Slug) (e : Entry) : List (Slug × Slug) :=
  match classify e with
  | .page s => if lookup P (cleanSlug s) = none then [(o, cleanSlug s)] else []
  | _ => []

/-- the childless node emitted for `e`, if any -/
def leaf (P : Pages) (e : Entry) : List Tree :=
  match emitOf P e with
  | some (k, l, t) => [.node k l t []]
  | none => []

theorem opens_eq_some {P V e pg} :
    opens P V e = some pg ↔ (∃ s, classify e = .page s ∧ lookup P (cleanSlug s) = some pg) ∧ pg.slug ∉ V := by
  unfold opens
  split
  · split <;> simp_all [and_comm]
  · simp_all

theorem seen_of_opens_none {P V e s pg} (ho : opens P V e = none) (hc : classify e = .page s)
    (hl : lookup P (cleanSlug s) = some pg) : pg.slug ∈ V :=
  Decidable.by_contra fun hv => by rw [opens_eq_some.2 ⟨⟨s, hc, hl⟩, hv⟩] at ho; cases ho

theorem mem_lost {P o e m} :
    m ∈ lost P o e ↔ ∃ s, classify e = .page s ∧ lookup P (cleanSlug s) = none ∧ m = (o, cleanSlug s) := by
  cases hc : classify e <;> simp [lost, hc]

theorem lost_of_opens {P V o e pg} (h : opens P V e = some pg) : lost P o e = [] := by
  obtain ⟨⟨s, hc, hl⟩, -⟩ := opens_eq_some.1 h
  simp [lost, hc, hl]

theorem emitOf_of_opens {P V e pg} (h : opens P V e = some pg) : emitOf P e = some (.page, pg.slug, titleOf e pg) := by
  obtain ⟨⟨s, hc, hl⟩, -⟩ := opens_eq_some.1 h
  simp [emitOf, hc, hl]

theorem emitOf_page {P e l t} (h : emitOf P e = some (.page, l, t)) :
    ∃ s pg, classify e = .page s ∧ lookup P (cleanSlug s) = some pg ∧ pg.slug = l ∧ t = titleOf e pg := by
  unfold emitOf at h
  split at h <;> simp at h
  next s hc => obtain ⟨pg, hl, rfl, rfl⟩ := h; exact ⟨s, pg, hc, hl, rfl, rfl⟩

theorem mem_leaf {P e t} : t ∈ leaf P e ↔ emitOf P e = some t.head ∧ t.children = [] := by
  cases t; unfold leaf
  split <;> simp [*, Tree.head, Tree.children, eq_comm, and_assoc]

theorem leaf_page_seen {P V e t} (ho : opens P V e = none) (ht : t ∈ leaf P e) (hk : t.kind = .page) : t.label ∈ V := by
  obtain ⟨k, l, tt, cs⟩ := t
  cases hk
  obtain ⟨s, pg, hc, hl, rfl, -⟩ := emitOf_page (mem_leaf.1 ht).1
  exact seen_of_opens_none ho hc hl

theorem walkList_cons (P rec o e es st) :
    walkList P rec o (e :: es) st =
      match opens P st.visited e with
      | some pg =>
        (rec pg.slug pg.entries { st with visited := pg.slug :: st.visited }).bind fun (kids, st₁) =>
          (walkList P rec o es st₁).map fun (ts, st₂) => (.node .page pg.slug (titleOf e pg) kids :: ts, st₂)
      | none =>
        (walkList P rec o es { st with missing := st.missing ++ lost P o e }).map fun (ts, st') =>
          (leaf P e ++ ts, st') := by
  obtain ⟨V, M⟩ := st
  rw [walkList]
  cases hc : classify e with
  | page s =>
    simp only [opens, lost, leaf, emitOf, hc]
    cases hl : lookup P (cleanSlug s) with
    | none => simp
    | some pg =>
      by_cases hv : pg.slug ∈ V <;> simp [hv]
      -- what is left in each branch: the model's `match x with | none => none | some r => some ..` is an `Option.map`
      · generalize walkList P rec o es _ = x; cases x <;> rfl
      · generalize rec _ _ _ = x
        rcases x with _ | ⟨kids, st₁⟩
        · rfl
        · simp only [Option.bind_some]; generalize walkList P rec o es st₁ = y; cases y <;> rfl
  | _ =>
    simp only [opens, lost, leaf, emitOf, hc, List.append_nil]
    generalize walkList P rec o es _ = x; cases x <;> rfl

/-- `Walk P o es V ts A M`: with the pages `V` visited, `find_toctree_nodes` on the entries `es` of page `o` returns the
forest `ts`, having newly visited the pages `A` (most recent first, as `visited` keeps them) and reported `M` missing. -/
inductive Walk (P : Pages) : Slug → List Entry → List Slug → List Tree → List Slug → List (Slug × Slug) → Prop
  | nil {o V} : Walk P o [] V [] [] []
  | flat {o e es V ts A M} : opens P V e = none → Walk P o es V ts A M →
      Walk P o (e :: es) V (leaf P e ++ ts) A (lost P o e ++ M)
  | fresh {o e es V pg kids ts A₁ A₂ M₁ M₂} : opens P V e = some pg →
      Walk P pg.slug pg.entries (pg.slug :: V) kids A₁ M₁ →
      Walk P o es (A₁ ++ pg.slug :: V) ts A₂ M₂ →
      Walk P o (e :: es) V (.node .page pg.slug (titleOf e pg) kids :: ts) (A₂ ++ A₁ ++ [pg.slug]) (M₁ ++ M₂)

theorem walk_sound (P : Pages) : ∀ n o es st ts st', walk P n o es st = some (ts, st') →
    ∃ A M, Walk P o es st.visited ts A M ∧ st' = ⟨A ++ st.visited, st.missing ++ M⟩ := by
  intro n
  induction n with
  | zero => intro _ _ _ _ _ h; cases h
  | succ n ihn =>
    intro o es
    induction es with
    | nil => intro st ts st' h; cases h; exact ⟨[], [], .nil, by simp⟩
    | cons e es ih =>
      intro st ts st' h
      rw [walk, walkList_cons] at h
      split at h
      · next pg ho =>
        obtain ⟨⟨kids, st₁⟩, h₁, h⟩ := Option.bind_eq_some_iff.1 h
        obtain ⟨⟨ts₂, st₂⟩, h₂, h⟩ := Option.map_eq_some_iff.1 h
        cases h
        obtain ⟨A₁, M₁, w₁, rfl⟩ := ihn _ _ _ _ _ h₁
        obtain ⟨A₂, M₂, w₂, rfl⟩ := ih _ _ _ h₂
        exact ⟨_, _, .fresh ho w₁ w₂, by simp⟩
      · next ho =>
        obtain ⟨⟨ts₂, st₂⟩, h₂, h⟩ := Option.map_eq_some_iff.1 h
        cases h
        obtain ⟨A, M, w, rfl⟩ := ih _ _ _ h₂
        exact ⟨_, _, .flat ho w, by simp⟩

def Inv (P : Pages) (st : St) : Prop := st.visited.Nodup ∧ st.visited ⊆ keys P

theorem inv_opens {P V e pg} (ho : opens P V e = some pg) (hV : V.Nodup ∧ V ⊆ keys P) :
    (pg.slug :: V).Nodup ∧ pg.slug :: V ⊆ keys P :=
  let ⟨⟨_, _, hl⟩, hv⟩ := opens_eq_some.1 ho
  ⟨List.nodup_cons.2 ⟨hv, hV.1⟩, List.cons_subset.2 ⟨lookup_key hl, hV.2⟩⟩

theorem Walk.inv {P o es V ts A M} (h : Walk P o es V ts A M) :
    V.Nodup ∧ V ⊆ keys P → (A ++ V).Nodup ∧ A ++ V ⊆ keys P := by
  induction h with
  | nil => exact id
  | flat _ _ ih => exact ih
  | fresh ho _ _ ih₁ ih₂ => exact fun hV => by simpa using ih₂ (ih₁ (inv_opens ho hV))

theorem walk_total (P : Pages) : ∀ n o es st, Inv P st → (keys P).length - st.visited.length < n →
    ∃ r, walk P n o es st = some r := by
  intro n
  induction n with
  | zero => intro _ _ _ _ h; omega
  | succ n ihn =>
    intro o es
    show ∀ st, Inv P st → _ → ∃ r, walkList P (walk P n) o es st = some r
    induction es with
    | nil => exact fun _ _ _ => ⟨_, rfl⟩
    | cons e es ih =>
      intro st hi hb
      rw [walkList_cons]
      split
      · next pg ho =>
        -- entering `pg` uses up one of the pages not yet visited
        have hi₁ : Inv P { st with visited := pg.slug :: st.visited } := inv_opens ho hi
        have hlen : st.visited.length + 1 ≤ (keys P).length := hi₁.1.length_le_of_subset hi₁.2
        obtain ⟨⟨kids, st₁⟩, h₁⟩ := ihn pg.slug pg.entries _ hi₁ (by simp only [List.length_cons]; omega)
        obtain ⟨A, M, w, rfl⟩ := walk_sound P n _ _ _ _ _ h₁
        obtain ⟨r, h₂⟩ := ih ⟨A ++ pg.slug :: st.visited, st.missing ++ M⟩ (w.inv hi₁)
          (by simp only [List.length_append, List.length_cons]; omega)
        exact ⟨_, by simp only [h₁, Option.bind_some, h₂, Option.map_some]; rfl⟩
      · obtain ⟨r, h₂⟩ := ih { st with missing := st.missing ++ lost P o e } hi hb
        exact ⟨_, by rw [h₂, Option.map_some]⟩

mutual
/-- all nodes of a tree, the node itself first (pre-order) -/
def nodes : Tree → List Tree
  | .node k l t cs => .node k l t cs :: nodesL cs
def nodesL : List Tree → List Tree
  | [] => []
  | t :: ts => nodes t ++ nodesL ts
end

/-- a page node that was built by recursing into the page: it has children -/
def isExpanded (t : Tree) : Bool := t.kind == .page && !t.children.isEmpty

/-- the pages that are expanded somewhere in the forest, one item per expanded node -/
def expandedL (ts : List Tree) : List Slug := ((nodesL ts).filter isExpanded).map Tree.label

/-- `a`'s toctrees hold a slug entry that names the existing page `b` -/
def Step (P : Pages) (a b : Slug) : Prop :=
  ∃ pa e s pb, lookup P a = some pa ∧ e ∈ pa.entries ∧ classify e = .page s ∧
    lookup P (cleanSlug s) = some pb ∧ pb.slug = b

/-- reachability by following toctree entries -/
inductive Reach (P : Pages) (a : Slug) : Slug → Prop
  | refl : Reach P a a
  | tail {b c} : Reach P a b → Step P b c → Reach P a c

theorem Reach.head {P a b c} (h : Step P a b) (r : Reach P b c) : Reach P a c := by
  induction r with
  | refl => exact .tail .refl h
  | tail _ hs ih => exact .tail ih hs

theorem nodesL_cons (t : Tree) (ts : List Tree) : nodesL (t :: ts) = t :: (nodesL t.children ++ nodesL ts) := by
  cases t; simp [nodesL, nodes, Tree.children]

theorem nodesL_leaf_append (P : Pages) (e : Entry) (ts : List Tree) : nodesL (leaf P e ++ ts) = leaf P e ++ nodesL ts := by
  unfold leaf; split <;> simp [nodesL_cons, nodesL, Tree.children]

theorem forall_nodesL_cons {Q : Tree → Prop} {t : Tree} {ts : List Tree} :
    (∀ x ∈ nodesL (t :: ts), Q x) ↔ Q t ∧ (∀ x ∈ nodesL t.children, Q x) ∧ ∀ x ∈ nodesL ts, Q x := by
  simp [nodesL_cons, or_imp, forall_and]

theorem forall_nodesL_leaf_append {Q : Tree → Prop} {P : Pages} {e : Entry} {ts : List Tree} :
    (∀ x ∈ nodesL (leaf P e ++ ts), Q x) ↔ (∀ x ∈ leaf P e, Q x) ∧ ∀ x ∈ nodesL ts, Q x := by
  simp [nodesL_leaf_append, or_imp, forall_and]

theorem expandedL_nil : expandedL [] = [] := by simp [expandedL, nodesL]

theorem expandedL_cons (t : Tree) (ts : List Tree) :
    expandedL (t :: ts) = (if isExpanded t then [t.label] else []) ++ expandedL t.children ++ expandedL ts := by
  simp only [expandedL, nodesL_cons, List.filter_cons]
  split <;> simp

theorem expandedL_leaf_append (P : Pages) (e : Entry) (ts : List Tree) : expandedL (leaf P e ++ ts) = expandedL ts := by
  unfold leaf; split <;> simp [expandedL_cons, expandedL_nil, isExpanded, Tree.children]

/-- A page node gets children only where the walk enters its page, so the expanded pages, in pre-order, are among the newly
visited ones in the order of visiting (`A` is kept most recent first). With `Walk.inv`: no page is expanded twice. -/
theorem Walk.expanded_sub {P o es V ts A M} (h : Walk P o es V ts A M) : (expandedL ts).reverse.Sublist A := by
  induction h with
  | nil => simp [expandedL_nil]
  | flat _ _ ih => rwa [expandedL_leaf_append]
  | fresh _ _ _ ih₁ ih₂ =>
    rw [expandedL_cons, List.reverse_append, List.reverse_append, ← List.append_assoc]
    refine (ih₂.append ih₁).append ?_
    split <;> simp [Tree.label]

theorem Walk.labels_visited {P o es V ts A M} (h : Walk P o es V ts A M) :
    ∀ t ∈ nodesL ts, t.kind = .page → t.label ∈ A ++ V := by
  induction h with
  | nil => simp [nodesL]
  | flat ho _ ih =>
    exact forall_nodesL_leaf_append.2 ⟨fun t ht hk => List.mem_append_right _ (leaf_page_seen ho ht hk), ih⟩
  | fresh _ _ _ ih₁ ih₂ =>
    simp only [List.append_assoc, List.singleton_append]
    exact forall_nodesL_cons.2 ⟨fun _ => List.mem_append_right _ (List.mem_append_right _ List.mem_cons_self),
      fun t ht hk => List.mem_append_right _ (ih₁ t ht hk), ih₂⟩

theorem Walk.visited_labels {P o es V ts A M} (h : Walk P o es V ts A M) :
    ∀ v ∈ A, ∃ t ∈ nodesL ts, t.kind = .page ∧ t.label = v := by
  induction h with
  | nil => simp
  | flat _ _ ih =>
    intro v hv
    obtain ⟨t, ht, h⟩ := ih v hv
    exact ⟨t, by rw [nodesL_leaf_append]; exact List.mem_append_right _ ht, h⟩
  | fresh _ _ _ ih₁ ih₂ =>
    intro v hv
    rw [nodesL_cons]
    simp only [List.mem_append, List.mem_singleton] at hv
    rcases hv with (hv | hv) | rfl
    · obtain ⟨t, ht, h⟩ := ih₂ v hv
      exact ⟨t, List.mem_cons_of_mem _ (List.mem_append_right _ ht), h⟩
    · obtain ⟨t, ht, h⟩ := ih₁ v hv
      exact ⟨t, List.mem_cons_of_mem _ (List.mem_append_left _ ht), h⟩
    · exact ⟨_, List.mem_cons_self, rfl, rfl⟩

theorem Walk.reach {P o es V ts A M} (h : Walk P o es V ts A M) {po : Page} (hl : lookup P o = some po) :
    es ⊆ po.entries → ∀ v ∈ A, Reach P o v := by
  induction h generalizing po with
  | nil => simp
  | flat _ _ ih => exact fun hs => ih hl (List.cons_subset.1 hs).2
  | fresh ho _ _ ih₁ ih₂ =>
    intro hs v hv
    obtain ⟨he, hs⟩ := List.cons_subset.1 hs
    obtain ⟨⟨s, hc, hp⟩, -⟩ := opens_eq_some.1 ho
    have hstep : Step P _ _ := ⟨po, _, s, _, hl, he, hc, hp, rfl⟩
    simp only [List.mem_append, List.mem_singleton] at hv
    rcases hv with (hv | hv) | rfl
    · exact ih₂ hl hs v hv
    · exact .head hstep (ih₁ (lookup_self hp) (List.Subset.refl _) v hv)
    · exact .tail .refl hstep

/-- The entry `e` of page `o` has been dealt with: the page it names is among `V`; if it names none, `M` says so. -/
def Settled (P : Pages) (V : List Slug) (M : List (Slug × Slug)) (o : Slug) (e : Entry) : Prop :=
  (∀ s pg, classify e = .page s → lookup P (cleanSlug s) = some pg → pg.slug ∈ V) ∧ lost P o e ⊆ M

theorem settled_of_opens_none {P V V' M o e} (ho : opens P V e = none) (hV : V ⊆ V') (hM : lost P o e ⊆ M) :
    Settled P V' M o e :=
  ⟨fun _ _ hc hl => hV (seen_of_opens_none ho hc hl), hM⟩

theorem settled_of_opens {P V V' M o e pg} (ho : opens P V e = some pg) (hpg : pg.slug ∈ V') : Settled P V' M o e := by
  obtain ⟨⟨s, hc, hl⟩, -⟩ := opens_eq_some.1 ho
  refine ⟨fun s' pg' hc' hl' => ?_, by simp [lost_of_opens ho]⟩
  cases hc.symm.trans hc'; cases hl.symm.trans hl'
  exact hpg

/-- Every entry the walk was given, and every entry of every page it entered, is settled. Stated for any `V'`, `M'` that
contain what the walk visited and reported, so that the hypotheses for the two sub-walks of `fresh` speak of the final
lists as they stand. -/
theorem Walk.settled {P o es V ts A M} (h : Walk P o es V ts A M) :
    ∀ {V' M'}, A ++ V ⊆ V' → M ⊆ M' →
      (∀ e ∈ es, Settled P V' M' o e) ∧
      ∀ v ∈ A, ∀ pa, lookup P v = some pa → ∀ e ∈ pa.entries, Settled P V' M' v e := by
  induction h with
  | nil => simp
  | flat ho _ ih =>
    intro V' M' hV hM
    obtain ⟨hM₀, hM⟩ := List.append_subset.1 hM
    obtain ⟨i, j⟩ := ih hV hM
    exact ⟨List.forall_mem_cons.2 ⟨settled_of_opens_none ho (List.append_subset.1 hV).2 hM₀, i⟩, j⟩
  | @fresh _ _ _ V pg _ _ A₁ A₂ _ _ ho _ _ ih₁ ih₂ =>
    intro V' M' hV hM
    obtain ⟨hM₁, hM₂⟩ := List.append_subset.1 hM
    have hV₂ : A₂ ++ (A₁ ++ pg.slug :: V) ⊆ V' := by simpa using hV
    have hV₁ := (List.append_subset.1 hV₂).2
    obtain ⟨i₁, j₁⟩ := ih₁ hV₁ hM₁
    obtain ⟨i₂, j₂⟩ := ih₂ hV₂ hM₂
    refine ⟨List.forall_mem_cons.2 ⟨settled_of_opens ho (hV₁ (List.mem_append_right _ List.mem_cons_self)), i₂⟩, ?_⟩
    intro v hv pa hpa
    simp only [List.mem_append, List.mem_singleton] at hv
    rcases hv with (hv | hv) | rfl
    · exact j₂ v hv pa hpa
    · exact j₁ v hv pa hpa
    · -- the entries of `pg` itself are those the inner walk was given
      obtain ⟨⟨_, _, hl⟩, -⟩ := opens_eq_some.1 ho
      cases (lookup_self hl).symm.trans hpa
      exact i₁

theorem Walk.heads {P o es V ts A M} (h : Walk P o es V ts A M) : ts.map Tree.head = es.filterMap (emitOf P) := by
  induction h with
  | nil => rfl
  | flat _ _ ih => unfold leaf; split <;> simp [Tree.head, *]
  | fresh ho _ _ _ ih => simp [emitOf_of_opens ho, Tree.head, ih]

/-- what a node looks like: it is emitted for some entry, and if it has children then it is a page node and they are the
nodes emitted for the entries of that page -/
def NodeOk (P : Pages) (t : Tree) : Prop :=
  (∃ e, emitOf P e = some t.head) ∧
  (t.children = [] ∨
    t.kind = .page ∧ ∃ pg, lookup P t.label = some pg ∧ t.children.map Tree.head = pg.entries.filterMap (emitOf P))

theorem Walk.nodes_ok {P o es V ts A M} (h : Walk P o es V ts A M) : ∀ t ∈ nodesL ts, NodeOk P t := by
  induction h with
  | nil => simp [nodesL]
  | flat _ _ ih =>
    refine forall_nodesL_leaf_append.2 ⟨fun t ht => ?_, ih⟩
    exact ⟨⟨_, (mem_leaf.1 ht).1⟩, .inl (mem_leaf.1 ht).2⟩
  | fresh ho w₁ _ ih₁ ih₂ =>
    obtain ⟨⟨s, _, hl⟩, -⟩ := opens_eq_some.1 ho
    refine forall_nodesL_cons.2 ⟨?_, ih₁, ih₂⟩
    exact ⟨⟨_, emitOf_of_opens ho⟩, .inr ⟨rfl, _, lookup_self hl, w₁.heads⟩⟩

theorem Walk.missing_sound {P o es V ts A M} (h : Walk P o es V ts A M) : ∀ m ∈ M, lookup P m.2 = none := by
  induction h with
  | nil => simp
  | flat _ _ ih =>
    intro m hm
    rcases List.mem_append.1 hm with hm | hm
    · obtain ⟨s, -, hl, rfl⟩ := mem_lost.1 hm
      exact hl
    · exact ih m hm
  | fresh _ _ _ ih₁ ih₂ => exact fun m hm => (List.mem_append.1 hm).elim (ih₁ m) (ih₂ m)

theorem startPage_spec {P : Pages} {sp : Page} (h : startPage P = some sp) :
    lookup P sp.slug = some sp ∧ sp.isTxt = true := by
  unfold startPage at h
  repeat' split at h
  all_goals cases h
  all_goals exact ⟨lookup_self ‹_›, ‹_›⟩

theorem startPage_isTxt {P : Pages} {sp : Page} (h : startPage P = some sp) : sp.isTxt = true :=
  (startPage_spec h).2

theorem buildToc_none {P : Pages} {fuel : Nat} {r : Result} (h : buildToc P fuel = some r)
    (hs : startPage P = none) : r = { tree := none, visited := [], missing := [], orphans := [] } := by
  unfold buildToc at h; rw [hs] at h; cases h; rfl

theorem buildToc_walk {P : Pages} {fuel : Nat} {r : Result} {sp : Page} (h : buildToc P fuel = some r)
    (hs : startPage P = some sp) :
    ∃ ts A M, Walk P sp.slug sp.entries [sp.slug] ts A M ∧
      r = { tree := some ts, visited := A ++ [sp.slug], missing := M, orphans := orphansOf P (A ++ [sp.slug]) } := by
  unfold buildToc at h; rw [hs] at h; simp only at h
  split at h
  · cases h
  · next ts st hw =>
    cases h
    obtain ⟨A, M, w, rfl⟩ := walk_sound P _ _ _ _ _ _ hw
    exact ⟨ts, A, M, w, by simp⟩

theorem inv_start {P : Pages} {sp : Page} (hs : startPage P = some sp) :
    Inv P { visited := [sp.slug], missing := [] } :=
  ⟨by simp, by simpa using lookup_key ((startPage_spec hs).1)⟩

/-- the root page included: every entry of every visited page is settled when `build_toctree` returns -/
theorem buildToc_settled {P : Pages} {fuel : Nat} {r : Result} {sp : Page} (h : buildToc P fuel = some r)
    (hs : startPage P = some sp) :
    ∀ v ∈ r.visited, ∀ pa, lookup P v = some pa → ∀ e ∈ pa.entries, Settled P r.visited r.missing v e := by
  obtain ⟨ts, A, M, w, rfl⟩ := buildToc_walk h hs
  obtain ⟨i, j⟩ := w.settled (List.Subset.refl _) (List.Subset.refl _)
  intro v hv pa hl
  simp only [List.mem_append, List.mem_singleton] at hv
  rcases hv with hv | rfl
  · exact j v hv pa hl
  · cases ((startPage_spec hs).1).symm.trans hl
    exact i

theorem slugKey_irrel (k l t cs) : (Tree.node k l none []).slugKey = (Tree.node k l t cs).slugKey := by
  cases k <;> rfl

mutual
theorem preOrderAcc_spec : ∀ (t : Tree) (order : List Str),
    preOrderAcc t order = order ++ (nodes t).filterMap Tree.slugKey
  | .node k l t cs, order => by
    rw [preOrderAcc, preOrderAccL_spec cs, nodes, List.filterMap_cons, ← slugKey_irrel k l t cs]
    cases (Tree.node k l none []).slugKey <;> simp
theorem preOrderAccL_spec : ∀ (ts : List Tree) (order : List Str),
    preOrderAccL ts order = order ++ (nodesL ts).filterMap Tree.slugKey
  | [], order => by simp [preOrderAccL, nodesL]
  | t :: ts, order => by rw [preOrderAccL, preOrderAccL_spec ts, preOrderAcc_spec t, nodesL]; simp
end

mutual
/-- the chains `get_paths` records below a node, without the accumulators: cleaned slugs from the node down to each leaf,
a URL leaf contributing the empty chain -/
def chains : Tree → List (List Str)
  | .node k l t cs =>
    match (Tree.node k l t cs).slugKey, cs.isEmpty with
    | some s, true => [[cleanSlug s]]
    | some s, false => (chainsL cs).map (cleanSlug s :: ·)
    | none, true => [[]]
    | none, false => []
def chainsL : List Tree → List (List Str)
  | [] => []
  | t :: ts => chains t ++ chainsL ts
end

mutual
theorem getPathsAcc_eq : ∀ (t : Tree) (path : List Str) (all : List (List Str)),
    getPathsAcc t path all = all ++ (chains t).map (path ++ ·)
  | .node k l t cs, path, all => by
    rw [getPathsAcc, chains, slugKey_irrel k l t cs]
    cases (Tree.node k l t cs).slugKey <;> cases cs.isEmpty <;> simp [getPathsAccL_eq cs]
theorem getPathsAccL_eq : ∀ (ts : List Tree) (path : List Str) (all : List (List Str)),
    getPathsAccL ts path all = all ++ (chainsL ts).map (path ++ ·)
  | [], _, _ => by simp [getPathsAccL, chainsL]
  | t :: ts, path, all => by rw [getPathsAccL, getPathsAccL_eq ts, getPathsAcc_eq t, chainsL]; simp
end

theorem mem_chainsL {ts : List Tree} {q : List Str} : q ∈ chainsL ts ↔ ∃ t ∈ ts, q ∈ chains t := by
  induction ts with
  | nil => simp [chainsL]
  | cons t ts ih => simp [chainsL, ih]

theorem cons_mem_chains {t : Tree} {c : Str} {q : List Str} : c :: q ∈ chains t ↔
    ∃ s, t.slugKey = some s ∧ c = cleanSlug s ∧ (t.children = [] ∧ q = [] ∨ q ∈ chainsL t.children) := by
  obtain ⟨k, l, tt, cs⟩ := t
  rw [chains]
  cases (Tree.node k l tt cs).slugKey with
  | none => cases cs <;> simp
  | some s =>
    cases cs with
    | nil => simp [Tree.children, chainsL]
    | cons _ _ => simpa [Tree.children, eq_comm (a := c)] using and_comm

theorem cons_mem_chainsL {ts : List Tree} {c : Str} {q : List Str} : c :: q ∈ chainsL ts ↔
    ∃ t ∈ ts, ∃ s, t.slugKey = some s ∧ c = cleanSlug s ∧ (t.children = [] ∧ q = [] ∨ q ∈ chainsL t.children) := by
  simp only [mem_chainsL, cons_mem_chains]

/-- `Occ ts p x`: the forest holds a slug-bearing node whose cleaned slug is `x` and whose
ancestors' cleaned slugs are `p`, outermost first -/
inductive Occ : List Tree → List Str → Str → Prop
  | here {ts t s} : t ∈ ts → t.slugKey = some s → Occ ts [] (cleanSlug s)
  | under {ts t s p x} : t ∈ ts → t.slugKey = some s → Occ t.children p x → Occ ts (cleanSlug s :: p) x

theorem occ_of_mem_chainsL {p : List Str} : ∀ {ts : List Tree} {x : Str} {rest : List Str},
    p ++ x :: rest ∈ chainsL ts → Occ ts p x := by
  induction p with
  | nil =>
    intro ts x rest h
    obtain ⟨t, ht, s, hs, rfl, -⟩ := cons_mem_chainsL.1 h
    exact .here ht hs
  | cons y p ih =>
    intro ts x rest h
    obtain ⟨t, ht, s, hs, rfl, ⟨-, h⟩ | h⟩ := cons_mem_chainsL.1 h
    · simp at h
    · exact .under ht hs (ih h)

/-- nodes without a slug key (URL nodes) are leaves -/
def LeavesOk (ts : List Tree) : Prop := ∀ t ∈ nodesL ts, t.slugKey = none → t.children = []

theorem leavesOk_cons {t : Tree} {ts : List Tree} :
    LeavesOk (t :: ts) ↔ (t.slugKey = none → t.children = []) ∧ LeavesOk t.children ∧ LeavesOk ts :=
  forall_nodesL_cons

theorem LeavesOk.children {ts : List Tree} (h : LeavesOk ts) {t : Tree} (hm : t ∈ ts) : LeavesOk t.children := by
  induction ts with
  | nil => cases hm
  | cons a ts ih =>
    obtain ⟨-, ha, hts⟩ := leavesOk_cons.1 h
    rcases List.mem_cons.1 hm with rfl | hm
    · exact ha
    · exact ih hts hm

mutual
theorem chains_ne_nil : ∀ t : Tree, (t.slugKey = none → t.children = []) → LeavesOk t.children → chains t ≠ []
  | .node k l tt cs, h₀, hcs => by
    rw [chains]
    split
    · simp
    · next hne => simpa using chainsL_ne_nil cs hcs (by rintro rfl; cases hne)
    · simp
    · next hs hne => cases (h₀ hs : cs = []); cases hne
theorem chainsL_ne_nil : ∀ ts : List Tree, LeavesOk ts → ts ≠ [] → chainsL ts ≠ []
  | [], _, h => absurd rfl h
  | t :: ts, hok, _ => by
    obtain ⟨h₀, hcs, -⟩ := leavesOk_cons.1 hok
    rw [chainsL]
    exact fun h => chains_ne_nil t h₀ hcs (List.append_eq_nil_iff.1 h).1
end

theorem mem_chains_of_occ {ts : List Tree} {p : List Str} {x : Str} (h : Occ ts p x) :
    LeavesOk ts → ∃ rest, p ++ x :: rest ∈ chainsL ts := by
  induction h with
  | @here ts t s hm hk =>
    intro hok
    by_cases hc : t.children = []
    · exact ⟨[], cons_mem_chainsL.2 ⟨t, hm, s, hk, rfl, .inl ⟨hc, rfl⟩⟩⟩
    · obtain ⟨q, hq⟩ := List.exists_mem_of_ne_nil _ (chainsL_ne_nil t.children (hok.children hm) hc)
      exact ⟨q, cons_mem_chainsL.2 ⟨t, hm, s, hk, rfl, .inr hq⟩⟩
  | @under ts t s p x hm hk hocc ih =>
    intro hok
    obtain ⟨rest, hr⟩ := ih (hok.children hm)
    exact ⟨rest, cons_mem_chainsL.2 ⟨t, hm, s, hk, rfl, .inr hr⟩⟩

theorem dictGet_dictSet (d : List (Str × List Str)) (k k' : Str) (v : List Str) :
    dictGet (dictSet d k v) k' = if k = k' then some v else dictGet d k' := by
  induction d with
  | nil => simp [dictSet, dictGet]
  | cons hd tl ih =>
    obtain ⟨a, b⟩ := hd
    simp only [dictSet]
    by_cases h : a = k
    · subst h; simp only [if_true, dictGet]; split <;> rfl
    · simp only [h, if_false, dictGet, ih]
      by_cases h2 : a = k'
      · have : ¬ k = k' := fun e => h (e ▸ h2)
        simp [h2, this]
      · simp [h2]

/-- Which occurrence of `k` on the path wins (the last) is left open: no statement about `breadcrumbs` needs it. -/
theorem crumbPath_get (rest : List Str) : ∀ d pre k,
    (dictGet (crumbPath d pre rest) k = dictGet d k ∧ k ∉ rest) ∨
    ∃ a b, rest = a ++ k :: b ∧ dictGet (crumbPath d pre rest) k = some (pre ++ a) := by
  induction rest with
  | nil => exact fun _ _ _ => .inl ⟨rfl, List.not_mem_nil⟩
  | cons s rest ih =>
    intro d pre k
    rw [crumbPath]
    rcases ih (dictSet d s pre) (pre ++ [s]) k with ⟨h, hn⟩ | ⟨a, b, rfl, h⟩
    · rw [dictGet_dictSet] at h
      by_cases hs : s = k
      · exact .inr ⟨[], rest, by rw [hs]; rfl, by simpa [hs] using h⟩
      · exact .inl ⟨by simpa [hs] using h, by simp [hn, Ne.symm hs]⟩
    · exact .inr ⟨s :: a, b, rfl, by simpa using h⟩

theorem crumbAll_get (paths : List (List Str)) : ∀ d k,
    (dictGet (crumbAll d paths) k = dictGet d k ∧ ∀ q ∈ paths, k ∉ q) ∨
    ∃ a b, a ++ k :: b ∈ paths ∧ dictGet (crumbAll d paths) k = some a := by
  induction paths with
  | nil => exact fun _ _ => .inl ⟨rfl, by simp⟩
  | cons p ps ih =>
    intro d k
    rw [crumbAll]
    rcases ih (crumbPath d [] p) k with ⟨h, hn⟩ | ⟨a, b, hq, h⟩
    · rcases crumbPath_get p d [] k with ⟨h', hn'⟩ | ⟨a, b, rfl, h'⟩
      · exact .inl ⟨h.trans h', List.forall_mem_cons.2 ⟨hn', hn⟩⟩
      · exact .inr ⟨a, b, List.mem_cons_self, h.trans h'⟩
    · exact .inr ⟨a, b, List.mem_cons_of_mem _ hq, h⟩

theorem parentPaths_get (ts : List Tree) (s : Str) :
    (dictGet (parentPaths (some ts)) s = none ∧ ∀ q ∈ chainsL ts, s ∉ q) ∨
    ∃ a b, a ++ s :: b ∈ chainsL ts ∧ dictGet (parentPaths (some ts)) s = some a := by
  rw [show parentPaths (some ts) = crumbAll [] (chainsL ts) by simp [parentPaths, getPathsAccL_eq]]
  exact crumbAll_get (chainsL ts) [] s

theorem validate_fold (bad : Entry → Bool) (xs : List Entry) :
    ∀ g : List Entry, (∀ y ∈ g, bad y = false) →
      xs.foldl (fun l e => if bad e then l.erase e else l) (g ++ xs) = g ++ xs.filter (fun e => !bad e) := by
  induction xs with
  | nil => simp
  | cons x xs ih =>
    intro g hg
    rw [List.foldl_cons, List.filter_cons]
    cases hb : bad x
    · have := ih (g ++ [x]) fun y hy => (List.mem_append.1 hy).elim (hg y) fun h => List.mem_singleton.1 h ▸ hb
      simpa using this
    · -- `erase` takes the first `x`, which is this one: none stands before it
      have hx : x ∉ g := fun hm => by rw [hg x hm] at hb; cases hb
      simpa [List.erase_append_right _ hx] using ih g hg

end SnootyVerif.Toc
