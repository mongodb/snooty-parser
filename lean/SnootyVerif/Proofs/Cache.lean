import SnootyVerif.Model.Cache

/-!
Lemmas for C11 (parse cache transparency).

A cached build differs from a clean one only where `lookup` hits, so transparency of a cache is the
statement that every hit returns the fresh parse (`buildWithCache_eq_buildClean`). The empty cache
has no hits; a cache whose entries were recorded at some disk `e₀` (`SoundAt`) has only right ones
(`lookup_sound`), because a passing dependency check pins down every path the parse looked at.
-/
namespace SnootyVerif.Cache

section
variable {Page H K : Type}

/-- Python `d[k] = v` followed by `d[k']` -/
theorem find_setEntry {κ ν : Type} [DecidableEq κ] (k k' : κ) (v : ν) (l : List (κ × ν)) :
    find k' (setEntry k v l) = if k = k' then some v else find k' l := by
  induction l with
  | nil => rfl
  | cons y t ih =>
    obtain ⟨k₁, v₁⟩ := y
    by_cases h : k₁ = k
    · subst h
      by_cases h' : k₁ = k' <;> simp only [setEntry, find, h', if_true, if_false]
    · by_cases h' : k = k'
      · subst h'; simp only [setEntry, find, h, ih, if_true, if_false]
      · simp only [setEntry, find, h, h', ih, if_false]

theorem find_setEntry_self {κ ν : Type} [DecidableEq κ] (k : κ) (v : ν) (l : List (κ × ν)) :
    find k (setEntry k v l) = some v := by
  rw [find_setEntry, if_pos rfl]

/-- the injectivity that matters: two sources that both read cleanly and have the same key are the same -/
def KeyInjective (srcKey : Bytes → K × Bool) : Prop :=
  ∀ b b', (srcKey b).2 = true → (srcKey b').2 = true → (srcKey b).1 = (srcKey b').1 → b = b'

variable {srcKey : Bytes → K × Bool} {hash : Bytes → H} {P : ParseFn Page} {c : CacheData Page H K}
  {e₀ e : Env} {p : FileId} {decode : Bytes → Option (CacheData Page H K)} {cur : List String}

theorem readCache_of_rejected {file : Option Bytes}
    (h : ∀ b, file = some b → loadFile decode cur b = none) :
    readCache decode cur file = CacheData.empty cur := by
  cases file with
  | none => rfl
  | some b => simp [readCache, h b rfl]

theorem readCache_of_decode {b : Bytes} {d : CacheData Page H K} (hb : decode b = some d) :
    readCache decode cur (some b) = if d.specifier = cur then d else CacheData.empty cur := by
  by_cases h : d.specifier = cur <;> simp [readCache, loadFile, hb, h]

theorem selfDep_some {ds : List (FileId × Option H)} :
    selfDep p (some ds) = true ↔ ∃ d ∈ ds, d.1 = p := by
  simp only [selfDep, List.any_eq_true, decide_eq_true_eq]

section
variable [DecidableEq K]

/-- whatever `pages[k]` holds is a record made at `e₀` (what `update_cache` after a build at `e₀` writes) -/
def SoundAt (srcKey : Bytes → K × Bool) (hash : Bytes → H) (P : ParseFn Page) (e₀ : Env)
    (pages : List ((FileId × K) × Option (Payload Page H))) : Prop :=
  ∀ (k : FileId × K) (v : Payload Page H), find k pages = some (some v) →
    ∃ b₀, e₀ k.1 = some b₀ ∧ k.2 = (srcKey b₀).1 ∧ v = record srcKey hash P e₀ k.1

theorem saveAt_sound (spec : List String) (ps : List FileId) :
    SoundAt srcKey hash P e₀ (saveAt srcKey hash P spec e₀ ps).pages := by
  refine List.foldlRecOn (motive := SoundAt srcKey hash P e₀) ps _ (fun _ _ h => nomatch h) ?_
  intro acc hacc p _ k v hk
  split at hk
  next b hb =>
    rw [find_setEntry] at hk
    split at hk
    next h => cases h; cases hk; exact ⟨b, hb, rfl, rfl⟩
    · exact hacc k v hk
  · exact hacc k v hk

end

variable [DecidableEq H]

theorem depOk_iff {d : FileId × Option H} :
    depOk hash e d = true ↔ ∃ b, e d.1 = some b ∧ d.2 = some (hash b) := by
  unfold depOk
  split <;> simp [*]

theorem checkCache_iff {o : Option (List (FileId × Option H))} :
    checkCache hash e o = true ↔
      ∃ ds, o = some ds ∧ ∀ d ∈ ds, ∃ b, e d.1 = some b ∧ d.2 = some (hash b) := by
  cases o with
  | none => exact ⟨nofun, nofun⟩
  | some ds => simp only [checkCache, List.all_eq_true, depOk_iff, Option.some.injEq, exists_eq_left']

/-- a passing dependency check against hashes recorded at `e₀` means every recorded path holds now
what it held then (given collision-free hashing) -/
theorem recorded_agree (hH : Function.Injective hash) {fs : List FileId}
    (h : checkCache hash e (some (fs.map fun f => (f, (e₀ f).map hash))) = true) :
    ∀ f ∈ fs, e₀ f = e f := by
  intro f hf
  obtain ⟨_, hds, h⟩ := checkCache_iff.mp h
  cases hds
  obtain ⟨b, hb, hb₀⟩ := h _ (List.mem_map_of_mem hf)
  obtain ⟨b₀, h₀, hbb⟩ := Option.map_eq_some_iff.mp hb₀
  rw [hb, h₀, hH hbb]

variable [DecidableEq K]

theorem lookup_error {x : Err} (h : lookup srcKey hash c e p = .error x) : e p = none := by
  unfold lookup at h
  split at h
  · assumption
  · repeat' split at h
    all_goals cases h

/-- everything a hit went through -/
theorem lookup_hit {pg : Page} (h : lookup srcKey hash c e p = .ok (some pg)) :
    ∃ b ent, e p = some b ∧ find (p, (srcKey b).1) c.pages = some (some ent) ∧ ent.page = pg ∧
      ((srcKey b).2 = true ∨ selfDep p ent.deps = true) ∧ checkCache hash e ent.deps = true := by
  unfold lookup at h
  split at h
  · cases h
  next b hb =>
    split at h
    · cases h
    · cases h
    next ent hf =>
      split at h
      · cases h
      next hg =>
        split at h
        next hc =>
          cases h
          refine ⟨b, ent, hb, hf, rfl, ?_, hc⟩
          simpa [Decidable.or_iff_not_imp_left] using hg
        · cases h

theorem lookup_sound (hK : KeyInjective srcKey) (hH : Function.Injective hash) (hdeps : DepsCoverReads P)
    (hs : SoundAt srcKey hash P e₀ c.pages) {pg : Page} (h : lookup srcKey hash c e p = .ok (some pg)) :
    pg = P.parse e p := by
  obtain ⟨b, ent, hp, hf, rfl, hself, hc⟩ := lookup_hit h
  obtain ⟨b₀, hp₀, hk, rfl⟩ := hs _ _ hf
  simp only [record, recordedPaths] at hc hself
  cases hds : P.deps e₀ p with
  | none => rw [hds] at hc; cases hc
  | some ds =>
    rw [hds] at hc hself
    -- the source and its recorded dependencies hold now what they held then
    have ⟨hpp, hsame⟩ : e₀ p = e p ∧ ∀ f ∈ ds, e₀ f = e f := by
      cases hcl₀ : cleanAt srcKey e₀ p with
      | false =>
        rw [hcl₀] at hc
        have := recorded_agree hH hc
        exact ⟨this p List.mem_cons_self, fun f hfd => this f (List.mem_cons_of_mem _ hfd)⟩
      | true =>
        rw [hcl₀] at hc hself
        have := recorded_agree hH hc
        refine ⟨?_, this⟩
        -- read cleanly both times under the same key, or recorded among its own dependencies
        rcases hself with hcl | hsd
        · rw [hp, hp₀, hK b b₀ hcl (by rwa [cleanAt, hp₀] at hcl₀) hk]
        · obtain ⟨_, hm, rfl⟩ := selfDep_some.mp hsd
          obtain ⟨f, hfd, rfl⟩ := List.mem_map.mp hm
          exact this f hfd
    refine (P.footprint e₀ e p fun f hfr => ?_).1
    rcases hdeps e₀ p ds hds f hfr with rfl | hfd
    · exact hpp
    · exact hsame f hfd

theorem stepCached_eq_stepClean
    (h : ∀ pg, lookup srcKey hash c e p = .ok (some pg) → pg = P.parse e p) :
    stepCached srcKey hash P c e p = stepClean P e p := by
  unfold stepCached
  split
  next x hx => cases x; rw [stepClean, lookup_error hx]
  next pg hpg =>
    obtain ⟨b, _, hb, _⟩ := lookup_hit hpg
    rw [h pg hpg, stepClean, hb]
  · rfl

theorem buildWithCache_eq_buildClean
    (h : ∀ p pg, lookup srcKey hash c e p = .ok (some pg) → pg = P.parse e p) {ps : List FileId} :
    buildWithCache srcKey hash P c e ps = buildClean P e ps :=
  congrArg (ps.mapM ·) (funext fun p => stepCached_eq_stepClean (h p))

theorem buildWithCache_empty {spec : List String} {ps : List FileId} :
    buildWithCache srcKey hash P (CacheData.empty spec) e ps = buildClean P e ps :=
  buildWithCache_eq_buildClean fun _ _ h => by
    obtain ⟨_, _, _, hf, _⟩ := lookup_hit h
    cases hf

/-- Transparency of a sound cache, at ANY later disk `e` (reachable from `e₀` by edits or not). -/
theorem buildWithCache_of_sound (hK : KeyInjective srcKey) (hH : Function.Injective hash)
    (hdeps : DepsCoverReads P) (hs : SoundAt srcKey hash P e₀ c.pages) {ps : List FileId} :
    buildWithCache srcKey hash P c e ps = buildClean P e ps :=
  buildWithCache_eq_buildClean fun _ _ => lookup_sound hK hH hdeps hs

/-- A file that decodes is harmless provided that, IF its specifier is the current one, its entries
were recorded by the current parser: nothing else is asked of the specifier. -/
theorem buildWithCache_readCache (hK : KeyInjective srcKey) (hH : Function.Injective hash)
    (hdeps : DepsCoverReads P) {b : Bytes} {d : CacheData Page H K} (hb : decode b = some d)
    (hs : d.specifier = cur → SoundAt srcKey hash P e₀ d.pages) {ps : List FileId} :
    buildWithCache srcKey hash P (readCache decode cur (some b)) e ps = buildClean P e ps := by
  rw [readCache_of_decode hb]
  split
  next h => exact buildWithCache_of_sound hK hH hdeps (hs h)
  · exact buildWithCache_empty

end
end SnootyVerif.Cache
