import SnootyVerif.Model.Schema
/-! Lemmas about `serialize`, `wf`, `wfJson` (C04). -/
namespace SnootyVerif.Schema

/-! ### the encoder raises only `EncodeError`, and never on a serializable value -/
mutual
theorem plain_error : ∀ (v : Val) (e : PyErr), plain v = .error e → e = .EncodeError ∧ isSer v = false
  | .none, _, h | .bool _, _, h | .int _, _, h | .float _ _, _, h | .str _, _, h | .entry _ _ _ _, _, h => nomatch h
  | .fileid _, _, h | .enum _, _, h | .node _, _, h | .other _, _, h => by cases h; exact ⟨rfl, rfl⟩
  | .list xs, e, h | .tuple xs, e, h => by
      simp only [plain] at h
      split at h
      · cases h
      · next he => cases h; exact plainList_error xs e he
  | .dict kvs, e, h => by
      simp only [plain] at h
      split at h
      · cases h
      · next he => cases h; exact plainKvs_error kvs e he
theorem plainList_error : ∀ (xs : Vals) (e : PyErr), plainList xs = .error e → e = .EncodeError ∧ isSerList xs = false
  | .nil, _, h => nomatch h
  | .cons v vs, e, h => by
      simp only [plainList] at h
      split at h
      · next he => cases h; simp [isSerList, plain_error v e he]
      · split at h
        · next he => cases h; simp [isSerList, plainList_error vs e he]
        · cases h
theorem plainKvs_error : ∀ (xs : Flds) (e : PyErr), plainKvs xs = .error e → e = .EncodeError ∧ isSerKvs xs = false
  | .nil, _, h => nomatch h
  | .cons _ v vs, e, h => by
      simp only [plainKvs] at h
      split at h
      · next he => cases h; simp [isSerKvs, plain_error v e he]
      · split at h
        · next he => cases h; simp [isSerKvs, plainKvs_error vs e he]
        · cases h
end

theorem plainList_err : ∀ (xs : Vals) (e : PyErr), plainList xs = .error e → e = .EncodeError :=
  fun xs e h => (plainList_error xs e h).1

theorem ok_of_error_false {α : Type} {x : Except PyErr α} {b : Bool} (he : ∀ e, x = .error e → b = false)
    (hb : b = true) : ∃ a, x = .ok a := by
  cases x with
  | ok a => exact ⟨a, rfl⟩
  | error e => rw [he e rfl] at hb; cases hb

theorem isSer_plain : ∀ (v : Val), isSer v = true → ∃ j, plain v = .ok j :=
  fun v => ok_of_error_false fun e h => (plain_error v e h).2
theorem isSerList_plain : ∀ (xs : Vals), isSerList xs = true → ∃ js, plainList xs = .ok js :=
  fun xs => ok_of_error_false fun e h => (plainList_error xs e h).2
theorem isSerKvs_plain : ∀ (xs : Flds), isSerKvs xs = true → ∃ js, plainKvs xs = .ok js :=
  fun xs => ok_of_error_false fun e h => (plainKvs_error xs e h).2

/-! ### a value of a declared shape is serializable and encodes to JSON of that shape -/

theorem all_plainList (p : Val → Bool) (q : Json → Bool)
    (hp : ∀ v, p v = true → isSer v = true ∧ ∃ j, plain v = .ok j ∧ q j = true) :
    ∀ (xs : Vals), Vals.all p xs = true →
      isSerList xs = true ∧ ∃ js, plainList xs = .ok js ∧ JList.all q js = true
  | .nil, _ => ⟨rfl, .nil, rfl, rfl⟩
  | .cons v vs, h => by
      simp only [Vals.all, Bool.and_eq_true] at h
      obtain ⟨hs, j, hj, hq⟩ := hp v h.1
      obtain ⟨hss, js, hjs, hqs⟩ := all_plainList p q hp vs h.2
      exact ⟨by simp [isSerList, hs, hss], .cons j js, by simp [plainList, hj, hjs], by simp [JList.all, hq, hqs]⟩

theorem all_plainKvs (p : Val → Bool) (q : Json → Bool)
    (hp : ∀ v, p v = true → isSer v = true ∧ ∃ j, plain v = .ok j ∧ q j = true) :
    ∀ (xs : Flds), Flds.allVals p xs = true →
      isSerKvs xs = true ∧ ∃ js, plainKvs xs = .ok js ∧ JKvs.allVals q js = true
  | .nil, _ => ⟨rfl, .nil, rfl, rfl⟩
  | .cons k v vs, h => by
      simp only [Flds.allVals, Bool.and_eq_true] at h
      obtain ⟨hs, j, hj, hq⟩ := hp v h.1
      obtain ⟨hss, js, hjs, hqs⟩ := all_plainKvs p q hp vs h.2
      exact ⟨by simp [isSerKvs, hs, hss], .cons k j js, by simp [plainKvs, hj, hjs], by simp [JKvs.allVals, hq, hqs]⟩

theorem conformsIn_plain (sh : Shape) (v : Val) (h : conformsIn sh v = true) :
    isSer v = true ∧ ∃ j, plain v = .ok j ∧ jsonShape sh j = true := by
  fun_induction conformsIn sh v
  case case1 | case2 | case3 => exact ⟨rfl, _, rfl, rfl⟩
  case case4 v => exact ⟨h, (isSer_plain v h).imp fun j hj => ⟨hj, by simp [jsonShape]⟩⟩
  case case5 s xs ih | case6 s xs ih =>
    obtain ⟨hs, js, hjs, hq⟩ := all_plainList _ (jsonShape s ·) ih xs h
    exact ⟨hs, .arr js, by simp [plain, hjs], hq⟩
  case case7 s kvs ih =>
    obtain ⟨hs, js, hjs, hq⟩ := all_plainKvs _ (jsonShape s ·) ih kvs h
    exact ⟨hs, .obj js, by simp [plain, hjs], hq⟩
  case case8 a b x y iha ihb | case9 a b x y iha ihb =>
    simp only [Bool.and_eq_true] at h
    obtain ⟨hx, jx, hjx, hqx⟩ := iha h.1
    obtain ⟨hy, jy, hjy, hqy⟩ := ihb h.2
    exact ⟨by simp [isSer, isSerList, hx, hy], .arr (.cons jx (.cons jy .nil)),
      by simp [plain, plainList, hjx, hjy], by simp [jsonShape, hqx, hqy]⟩
  case case10 => cases h

/-! ### on a serializable value `serialize`'s own traversal does what the encoder does -/

theorem serElems_eq_plainList : ∀ (xs : Vals), isSerList xs = true → serElems xs = plainList xs
  | .nil, _ => rfl
  | .cons v vs, h => by
      simp only [isSerList, Bool.and_eq_true] at h
      have he : serElem v = plain v := by cases v <;> first | rfl | cases h.1
      simp only [serElems, plainList, he, serElems_eq_plainList vs h.2]

theorem serField_of_isSer : ∀ (v : Val), isSer v = true →
    serField v = (plain v).map fun j => if v.isSet then some j else none
  | .none, _ | .bool _, _ | .int _, _ | .float _ _, _ | .str _, _ | .dict .nil, _ => rfl
  | .dict (.cons k v rest), _ => by simp only [serField, plain]; cases plainKvs (.cons k v rest) <;> rfl
  | .list xs, h | .tuple xs, h => by
      simp only [serField, plain, serElems_eq_plainList xs h]; cases plainList xs <;> rfl
  | .fileid _, h | .enum _, h | .entry _ _ _ _, h | .node _, h | .other _, h => nomatch h

theorem conformsIn_serField (sh : Shape) (v : Val) (h : conformsIn sh v = true) :
    ∃ r, serField v = .ok r ∧ ∀ j, r = some j → jsonShape sh j = true := by
  obtain ⟨hs, j, hj, hq⟩ := conformsIn_plain sh v h
  refine ⟨_, by rw [serField_of_isSer v hs, hj]; rfl, fun j' hj' => ?_⟩
  split at hj' <;> cases hj'
  exact hq

/-! ### an entry of a toctree serializes to an object whose keys are among `entryKeys` and hold strings -/

theorem entryField_ok (k : String) (v : Option String) (rest : JKvs)
    (hk : k ∈ entryKeys) (hr : entryKvsOk rest = true) :
    entryKvsOk (entryField k v rest) = true := by
  unfold entryField
  split
  · split
    · exact hr
    · simp only [entryKvsOk, List.contains_iff_mem.2 hk, hr, Bool.and_self]
  · exact hr

theorem entryObj_ok (t u s r : Option String) : jsonEntry (entryObj t u s r) = true :=
  entryField_ok _ t _ (.head _) <| entryField_ok _ u _ (.tail _ (.head _)) <|
    entryField_ok _ s _ (.tail _ (.tail _ (.head _))) <|
    entryField_ok _ r _ (.tail _ (.tail _ (.tail _ (.head _)))) rfl

theorem entries_ser : ∀ (xs : Vals), Vals.all isEntry xs = true →
    ∃ js, serElems xs = .ok js ∧ JList.all jsonEntry js = true
  | .nil, _ => ⟨.nil, rfl, rfl⟩
  | .cons v vs, h => by
      simp only [Vals.all, Bool.and_eq_true] at h
      obtain ⟨js, hjs, hq⟩ := entries_ser vs h.2
      cases v <;> try cases h.1
      rename_i t u s r
      exact ⟨.cons (entryObj t u s r) js, by simp [serElems, serElem, hjs], by simp [JList.all, entryObj_ok, hq]⟩

/-! ### a required field that is present and passes its per-field check is emitted -/

theorem serField_isSome (v : Val) (r : Option Json) (h : serField v = .ok r) : r.isSome = v.isSet := by
  unfold serField at h
  split at h <;> (try split at h) <;> cases h <;> rfl

theorem hasKey_serFlds : ∀ (fs : Flds) (kvs : JKvs), serFlds fs = .ok kvs → ∀ k, kvs.hasKey k = fs.hasSet k
  | .nil, _, h, _ => by cases h; rfl
  | .cons k' v rest, kvs, h, k => by
      simp only [serFlds] at h
      split at h
      · cases h
      next r hr =>
        split at h
        · cases h
        next js hjs =>
          have ih := hasKey_serFlds rest js hjs k
          have hs := serField_isSome v r hr
          cases r <;> cases h <;> simp [Flds.hasSet, JKvs.hasKey, ← hs, ih]

theorem conformsIn_unset (sh : Shape) (v : Val) :
    conformsIn sh v = true → v.isSet = false → (Kind.req sh).required = false := by
  -- row by row: the shape is `ser`/`dict` (not required), or the value is one that is set, or the row answers `false`
  fun_cases conformsIn sh v <;> intro h hv <;> first | rfl | cases hv | cases h

theorem wfFld_unset (s : Schema) (strict : Bool) (c : ClassInfo) (k : String) (v : Val) :
    wfFld s strict (c.kindOf k) v = true → v.isSet = false → c.isRequired k = false := by
  unfold ClassInfo.isRequired
  generalize c.kindOf k = okd
  fun_cases wfFld s strict okd v
  case case4 sh => exact conformsIn_unset sh v
  all_goals intro h hv; first | rfl | cases hv | cases h

theorem required_hasSet (s : Schema) (strict : Bool) (c : ClassInfo) :
    ∀ (fs : Flds), wfFlds s strict c fs = true → ∀ k, fs.hasKey k = true → c.isRequired k = true →
      fs.hasSet k = true
  | .nil, _, _, hk, _ => nomatch hk
  | .cons k' v rest, h, k, hk, hreq => by
      simp only [wfFlds, Bool.and_eq_true] at h
      simp only [Flds.hasKey, Bool.or_eq_true, beq_iff_eq] at hk
      simp only [Flds.hasSet, Bool.or_eq_true, Bool.and_eq_true, beq_iff_eq]
      by_cases hkk : k' = k
      · subst hkk
        cases hv : v.isSet
        · rw [wfFld_unset s strict c k' v h.1 hv] at hreq; cases hreq
        · exact .inl ⟨rfl, rfl⟩
      · exact .inr (required_hasSet s strict c rest h.2 k (hk.resolve_left hkk) hreq)

/-! ### main induction: a well-formed AST serializes, to a well-formed document -/

theorem spanOk_line (span : Val) : spanOk span = true → ∃ i, spanLine span = .ok (.int i) := by
  fun_cases spanOk span
  · exact fun _ => ⟨_, rfl⟩
  · exact fun _ => ⟨_, rfl⟩
  · exact nofun

/-- the per-key check of `wfJKvs` -/
def jFldOk (s : Schema) (strict : Bool) (okd : Option Kind) (j : Json) : Bool :=
  match okd with
  | some (.node b) => wfJson s strict b j
  | kd => wfJFld s strict kd j

theorem wfJKvs_cons (s : Schema) (strict : Bool) (c : ClassInfo) (k : String) (v : Json) (rest : JKvs) :
    wfJKvs s strict c (.cons k v rest)
      = ((k == "type" || k == "position" || jFldOk s strict (c.kindOf k) v) && wfJKvs s strict c rest) := by
  simp only [wfJKvs, jFldOk]
  cases c.kindOf k with
  | none => rfl
  | some kd => cases kd <;> rfl

theorem find_mem (s : Schema) (cls : String) (c : ClassInfo) (h : s.find cls = some c) : c ∈ s.classes :=
  List.mem_of_find?_eq_some h

theorem JKvs.lookup_cons (key k : String) (v : Json) (rest : JKvs) :
    JKvs.lookup key (.cons k v rest) = if k = key then some v else JKvs.lookup key rest := by
  simp only [JKvs.lookup, beq_iff_eq]

theorem wf_ser_all (s : Schema) (strict : Bool) :
    (∀ b a, wf s strict b a = true → ∃ j, serialize a = .ok j ∧ wfJson s strict b j = true)
    ∧ (∀ c fs, wfFlds s strict c fs = true → ∃ kvs, serFlds fs = .ok kvs ∧ wfJKvs s strict c kvs = true)
    ∧ (∀ okd v, wfFld s strict okd v = true →
        ∃ r, serField v = .ok r ∧ ∀ j, r = some j → jFldOk s strict okd j = true)
    ∧ (∀ b xs, wfNodes s strict b xs = true → ∃ js, serElems xs = .ok js ∧ wfJList s strict b js = true) := by
  apply wf.mutual_induct_unfolding s strict
    (fun b a w => w = true → ∃ j, serialize a = .ok j ∧ wfJson s strict b j = true)
    (fun c fs w => w = true → ∃ kvs, serFlds fs = .ok kvs ∧ wfJKvs s strict c kvs = true)
    (fun okd v w => w = true → ∃ r, serField v = .ok r ∧ ∀ j, r = some j → jFldOk s strict okd j = true)
    (fun b xs w => w = true → ∃ js, serElems xs = .ok js ∧ wfJList s strict b js = true)
  -- the cases are the rows of the four definitions, in the order wf (1-2), wfFld (3-13), wfNodes (14-16), wfFlds (17-18);
  -- 1, 13 and 16 are the rows that answer `false`
  case case1 | case13 | case16 => intros; contradiction
  case case2 =>
    intro b cls tag span fields c hc ih h
    simp only [Bool.and_eq_true] at h
    obtain ⟨⟨⟨⟨⟨⟨htag, hint⟩, hmro⟩, hspan⟩, hkeys⟩, hone⟩, hflds⟩ := h
    obtain ⟨i, hi⟩ := spanOk_line span hspan
    obtain ⟨kvs, hkvs, hwk⟩ := ih hflds
    have hset := hasKey_serFlds fields kvs hkvs
    refine ⟨_, by simp only [serialize, hi, hkvs, plain]; rfl, ?_⟩
    simp only [wfJson, JKvs.lookup_cons, posOk, JKvs.hasKey, wfJKvs, hset, if_true, String.reduceEq, String.reduceBEq,
      if_false, Bool.true_and, Bool.true_or, Bool.or_true]
    refine List.any_eq_true.2 ⟨c, find_mem s cls c hc, ?_⟩
    simp only [Bool.and_eq_true, htag, hint, hmro, hwk, and_true, true_and]
    constructor
    · refine List.all_eq_true.2 fun f hf => ?_
      cases hreq : c.isRequired f.1
      · rfl
      · simp only [required_hasSet s strict c fields hflds f.1 (List.all_eq_true.1 hkeys f hf) hreq, Bool.or_true]
    · simp only [Bool.or_eq_true, List.any_eq_true] at hone ⊢
      exact hone.imp_right fun ⟨k, hk, hs⟩ => ⟨k, hk, .inr (.inr hs)⟩
  case case3 | case4 =>
    intro b xs ih h
    obtain ⟨ys, hys, hwy⟩ := ih h
    exact ⟨some (.arr ys), by simp only [serField, hys], by rintro _ ⟨⟩; simpa only [jFldOk, wfJFld]⟩
  case case5 =>
    intro b a ih h
    obtain ⟨j, hj, hwj⟩ := ih h
    exact ⟨some j, by simp only [serField, hj], by rintro _ ⟨⟩; simpa only [jFldOk]⟩
  case case6 =>
    exact fun sh v h => (conformsIn_serField sh v h).imp fun r hr => ⟨hr.1, by simpa only [jFldOk, wfJFld] using hr.2⟩
  case case7 => exact fun _ _ => ⟨none, rfl, nofun⟩
  case case8 =>
    exact fun sh v _ h => (conformsIn_serField sh v h).imp fun r hr => ⟨hr.1, by simpa only [jFldOk, wfJFld] using hr.2⟩
  case case9 => exact fun x _ => ⟨some (.str x), rfl, by rintro _ ⟨⟩; simp only [jFldOk, wfJFld]⟩
  case case10 => exact fun names n h => ⟨some (.str n), rfl, by rintro _ ⟨⟩; simpa only [jFldOk, wfJFld]⟩
  case case11 | case12 =>
    intro xs h
    obtain ⟨ys, hys, hq⟩ := entries_ser xs h
    exact ⟨some (.arr ys), by simp only [serField, hys], by rintro _ ⟨⟩; simpa only [jFldOk, wfJFld]⟩
  case case14 | case17 => exact fun _ _ => ⟨.nil, rfl, rfl⟩
  case case15 =>
    intro b a vs iha ihvs h
    simp only [Bool.and_eq_true] at h
    obtain ⟨j, hj, hwj⟩ := iha h.1
    obtain ⟨js, hjs, hwjs⟩ := ihvs h.2
    exact ⟨.cons j js, by simp only [serElems, serElem, hj, hjs], by simp only [wfJList, hwj, hwjs, Bool.and_self]⟩
  case case18 =>
    intro c k v rest ihv ihrest h
    simp only [Bool.and_eq_true] at h
    obtain ⟨r, hr, hq⟩ := ihv h.1
    obtain ⟨js, hjs, hwjs⟩ := ihrest h.2
    cases r with
    | none => exact ⟨js, by simp only [serFlds, hr, hjs], hwjs⟩
    | some j => exact ⟨.cons k j js, by simp only [serFlds, hr, hjs], by
        simp only [wfJKvs_cons, hq j rfl, hwjs, Bool.or_true, Bool.and_self]⟩

theorem wf_ser (s : Schema) (strict : Bool) (a : Ast) (b : String) (h : wf s strict b a = true) :
    ∃ j, serialize a = .ok j ∧ wfJson s strict b j = true :=
  (wf_ser_all s strict).1 b a h

theorem wfFlds_ser (s : Schema) (strict : Bool) (c : ClassInfo) : ∀ (fs : Flds), wfFlds s strict c fs = true →
    ∃ kvs, serFlds fs = .ok kvs ∧ wfJKvs s strict c kvs = true
      ∧ ∀ k, fs.hasSet k = true → kvs.hasKey k = true := fun fs h =>
  let ⟨kvs, hkvs, hw⟩ := (wf_ser_all s strict).2.1 c fs h
  ⟨kvs, hkvs, hw, fun k hk => (hasKey_serFlds fs kvs hkvs k).trans hk⟩

theorem wfNodes_ser (s : Schema) (strict : Bool) : ∀ (xs : Vals) (b : String), wfNodes s strict b xs = true →
    ∃ js, serElems xs = .ok js ∧ wfJList s strict b js = true :=
  fun xs b => (wf_ser_all s strict).2.2.2 b xs

/-! ### `NotImplementedError` is raised only on a value of unknown type -/

theorem plain_not_nie (v : Val) : plain v ≠ .error .NotImplementedError :=
  fun h => nomatch (plain_error v _ h).1

theorem spanLine_not_nie (span : Val) : spanLine span ≠ .error .NotImplementedError := by
  fun_cases spanLine span <;> nofun

mutual
theorem ser_nie : ∀ (a : Ast), serialize a = .error .NotImplementedError → hasUnknown a = true
  | .mk cls tag span fields, h => by
      simp only [serialize] at h
      split at h
      · next he => cases h; exact absurd he (spanLine_not_nie span)
      split at h
      · next he => cases h; exact serFlds_nie fields he
      split at h
      · next he => cases h; exact absurd he (plain_not_nie _)
      · cases h
theorem serField_nie : ∀ (v : Val), serField v = .error .NotImplementedError → unkVal v = true
  | .other _, _ => rfl
  | .node a, h => by
      simp only [serField] at h
      split at h
      · cases h
      · next he => cases h; exact ser_nie a he
  | .list xs, h | .tuple xs, h => by
      simp only [serField] at h
      split at h
      · cases h
      · next he => cases h; exact serElems_nie xs he
  | .dict (.cons k v rest), h => by
      simp only [serField] at h
      split at h
      · cases h
      · next he => cases h; exact nomatch (plainKvs_error _ _ he).1
  | .dict .nil, h | .none, h | .bool _, h | .int _, h | .float _ _, h | .str _, h | .fileid _, h | .enum _, h
  | .entry _ _ _ _, h => nomatch h
theorem serElems_nie : ∀ (xs : Vals), serElems xs = .error .NotImplementedError → unkElems xs = true
  | .nil, h => nomatch h
  | .cons v vs, h => by
      simp only [serElems] at h
      split at h
      · next he =>
        cases h
        cases v
        case node a => simp only [unkElems, ser_nie a he, Bool.true_or]
        case entry => cases he
        all_goals exact absurd he (plain_not_nie _)
      split at h
      · next he =>
        cases h
        have := serElems_nie vs he
        cases v <;> simp only [unkElems, this, Bool.or_true]
      · cases h
theorem serFlds_nie : ∀ (fs : Flds), serFlds fs = .error .NotImplementedError → unkFlds fs = true
  | .nil, h => nomatch h
  | .cons k v rest, h => by
      simp only [serFlds] at h
      split at h
      · next he => cases h; simp only [unkFlds, serField_nie v he, Bool.true_or]
      split at h
      · next he => cases h; simp only [unkFlds, serFlds_nie rest he, Bool.or_true]
      · split at h <;> cases h
end

end SnootyVerif.Schema
