import SnootyVerif.Model.Enumerator
namespace SnootyVerif.Enumerator

/-! ## roman.py: the greedy loops in closed form -/

/-- `num` written `q` times -/
def rep : Nat → List Char → List Char
  | 0, _ => []
  | q + 1, num => num ++ rep q num

theorem length_rep (q : Nat) (num : List Char) : (rep q num).length = q * num.length := by
  induction q with
  | zero => simp [rep]
  | succ q ih => simp [rep, ih, Nat.succ_mul, Nat.add_comm]

theorem emit_eq (num : List Char) {v : Nat} (hv : 0 < v) :
    ∀ (fuel n : Nat), n ≤ fuel → emit num v fuel n = (rep (n / v) num, n % v)
  | 0, n, h => by
    cases Nat.le_zero.mp h
    simp [emit, rep]
  | f + 1, n, h => by
    unfold emit
    split
    · next hle =>
      rw [emit_eq num hv f (n - v) (by omega), Nat.div_eq_sub_div hv hle, ← Nat.mod_eq_sub_mod hle]
      rfl
    · next hlt =>
      rw [Nat.div_eq_of_lt (Nat.not_le.mp hlt), Nat.mod_eq_of_lt (Nat.not_le.mp hlt)]
      rfl

theorem toRomanAux_cons (t : List Char) {v : Nat} (hv : 0 < v) (m : List (List Char × Nat)) (n : Nat) :
    toRomanAux ((t, v) :: m) n = rep (n / v) t ++ toRomanAux m (n % v) := by
  rw [toRomanAux, emit_eq t hv n n (Nat.le_refl n)]

theorem eat_rep (num : List Char) (v : Nat) (w : List Char) (hw : num.isPrefixOf w = false) :
    ∀ (q fuel acc : Nat), q ≤ fuel → eat num v fuel (rep q num ++ w) acc = (w, acc + q * v)
  | 0, fuel, acc, _ => by
    cases fuel with
    | zero => simp [eat, rep]
    | succ f => simp [eat, rep, hw]
  | q + 1, 0, _, h => by omega
  | q + 1, f + 1, acc, h => by
    have hp : num.isPrefixOf (rep (q + 1) num ++ w) = true := by
      simp [rep, List.isPrefixOf_iff_prefix]
    have hd : (rep (q + 1) num ++ w).drop num.length = rep q num ++ w := by simp [rep]
    rw [eat, if_pos hp, hd, eat_rep num v w hw q f _ (by omega), Nat.succ_mul, Nat.add_assoc, Nat.add_comm v]

theorem fromRomanAux_cons_rep {t : List Char} (ht : t ≠ []) (v : Nat) (m : List (List Char × Nat)) {w : List Char}
    (hw : t.isPrefixOf w = false) (q acc : Nat) :
    fromRomanAux ((t, v) :: m) (rep q t ++ w) acc = fromRomanAux m w (acc + q * v) := by
  have hfuel : q ≤ (rep q t ++ w).length := by
    rw [List.length_append, length_rep]
    exact Nat.le_trans (Nat.le_mul_of_pos_right q (List.length_pos_iff.mpr ht)) (Nat.le_add_right _ _)
  rw [fromRomanAux, eat_rep t v w hw q _ acc hfuel]

/-! ## when reading inverts writing

The copies of the first numeral are read back, and no more, if what the rest of the map writes after them does not begin
with that numeral. `noOverlap` is a check of the map that guarantees it (for `CM` in the map of roman.py: neither `CM` nor
`M` begins one of `D`, `CD`, `C`, …, `I`). -/

/-- whatever holds of the empty text and survives putting a numeral of the map in front holds of all `to_roman` writes -/
theorem toRomanAux_ind {Q : List Char → Prop} (h0 : Q []) :
    ∀ (m : List (List Char × Nat)), (∀ e ∈ m, ∀ s, Q s → Q (e.1 ++ s)) → ∀ n, Q (toRomanAux m n)
  | [], _, _ => h0
  | (t, v) :: m, hs, n => by
    have hm := toRomanAux_ind h0 m fun e he => hs e (List.mem_cons_of_mem _ he)
    have : ∀ fuel k, Q ((emit t v fuel k).1 ++ toRomanAux m (emit t v fuel k).2) := by
      intro fuel
      induction fuel with
      | zero => exact hm
      | succ f ih =>
        intro k
        unfold emit
        split
        · show Q ((t ++ _) ++ _)
          rw [List.append_assoc]
          exact hs (t, v) List.mem_cons_self _ (ih _)
        · exact hm k
    exact this n n

/-- no non-empty suffix of `t` is a prefix of a numeral of `m` -/
def noOverlap : List Char → List (List Char × Nat) → Bool
  | [], _ => true
  | c :: t, m => (m.all fun e => !(c :: t).isPrefixOf e.1) && noOverlap t m

theorem noOverlap_spec {m : List (List Char × Nat)} : ∀ {t : List Char}, noOverlap t m = true →
    ∀ s, s <:+ t → s ≠ [] → ∀ e ∈ m, ¬ s <+: e.1
  | [], _, s, hs, h0 => absurd (List.suffix_nil.mp hs) h0
  | c :: t, hc, s, hs, h0 => by
    simp only [noOverlap, Bool.and_eq_true] at hc
    rcases List.suffix_cons_iff.mp hs with rfl | hs
    · simpa [← List.isPrefixOf_iff_prefix] using hc.1
    · exact noOverlap_spec hc.2 s hs h0

/-- a numeral that overlaps none of `m` begins nothing that is written with the numerals of `m` -/
theorem noOverlap_toRomanAux {t : List Char} {m : List (List Char × Nat)} (hc : noOverlap t m = true) (ht : t ≠ [])
    (n : Nat) : t.isPrefixOf (toRomanAux m n) = false := by
  -- invariant of the writing loop: no non-empty suffix of `t` begins the text so far
  have inv : ∀ s, s <:+ t → s ≠ [] → ¬ s <+: toRomanAux m n := by
    refine toRomanAux_ind (Q := fun w => ∀ s, s <:+ t → s ≠ [] → ¬ s <+: w) ?_ m ?_ n
    · intro s _ h0 h
      exact h0 (List.prefix_nil.mp h)
    · intro e he w ih s hs h0 h
      -- `s` begins `e.1 ++ w`: either `s` begins `e.1`, or `s = e.1 ++ s'` where `s'`, again a suffix of `t`, begins `w`
      rcases List.prefix_or_prefix_of_prefix h (List.prefix_append e.1 w) with h1 | ⟨s', rfl⟩
      · exact noOverlap_spec hc s hs h0 e he h1
      · have h0' : s' ≠ [] := by
          rintro rfl
          exact noOverlap_spec hc _ hs h0 e he (by simp)
        exact ih s' ((List.suffix_append _ _).trans hs) h0' ((List.prefix_append_right_inj _).mp h)
  simpa [← List.isPrefixOf_iff_prefix] using inv t (List.suffix_refl _) ht

/-- The check under which `m` reads back every `n < b`: each numeral is non-empty, has a positive value and overlaps none
of the numerals after it. What is left for the numerals after `(t, v)` is below `v`, so `v` is their bound; the empty map
writes only 0, which makes the last value 1. -/
def unambiguous : List (List Char × Nat) → Nat → Bool
  | [], b => b ≤ 1
  | (t, v) :: m, _ => !t.isEmpty && 0 < v && noOverlap t m && unambiguous m v

theorem unambiguous_cons {t : List Char} {v b : Nat} {m : List (List Char × Nat)} :
    unambiguous ((t, v) :: m) b = true ↔ t ≠ [] ∧ 0 < v ∧ noOverlap t m = true ∧ unambiguous m v = true := by
  simp [unambiguous, and_assoc]

/-- **`from_roman` reads back what `to_roman` writes**, for every numeral map that passes the check: the first numeral
is written `n / v` times and read back as often, since what follows does not begin with it; the rest of the map does the
same with `n % v`. -/
theorem roundtrip_aux : ∀ (m : List (List Char × Nat)) (b : Nat), unambiguous m b = true →
    ∀ n < b, ∀ acc, fromRomanAux m (toRomanAux m n) acc = acc + n
  | [], b, h, n, hn, acc => by
    have : n = 0 := by simp [unambiguous] at h; omega
    subst this
    rfl
  | (t, v) :: m, _, h, n, _, acc => by
    obtain ⟨ht, hv, hc, hm⟩ := unambiguous_cons.mp h
    rw [toRomanAux_cons t hv, fromRomanAux_cons_rep ht v m (noOverlap_toRomanAux hc ht _),
      roundtrip_aux m v hm _ (Nat.mod_lt n hv), Nat.add_assoc, Nat.div_add_mod']

theorem toRoman_total (R : Roman) (n : Nat) :
    (∃ s, toRoman R n = .ok s) ∨ toRoman R n = .error .ValueError := by
  unfold toRoman
  split
  · exact Or.inl ⟨_, rfl⟩
  · exact Or.inr rfl

theorem fromRoman_total (R : Roman) (s : List Char) :
    (∃ n, fromRoman R s = .ok n) ∨ fromRoman R s = .error .ValueError := by
  unfold fromRoman
  split
  · exact Or.inl ⟨_, rfl⟩
  · exact Or.inr rfl

/-- `from_roman` only ever accepts what `to_roman` writes: an accepted numeral is the canonical spelling of its value -/
theorem fromRoman_sound (R : Roman) (s : List Char) (n : Nat) (h : fromRoman R s = .ok n) : toRoman R n = .ok s := by
  unfold fromRoman at h
  split at h
  · rename_i hc
    cases h
    simp [toRoman, hc.1, hc.2.1, hc.2.2]
  · cases h

/-- **`from_roman(to_roman(n)) == n`** for every n that has a numeral, over every table that passes the check -/
theorem roundtrip (R : Roman) (hR : unambiguous R.map R.max = true) (n : Nat) (h1 : 0 < n) (h2 : n < R.max) :
    (toRoman R n).bind (fromRoman R) = .ok n := by
  have h := roundtrip_aux R.map R.max hR n h2 0
  rw [Nat.zero_add] at h
  simp only [toRoman, h1, h2, and_self, if_true, Except.bind, fromRoman, h]

theorem fromRomanTable_total (table : List (List Char)) (s : List Char) :
    (∃ n, fromRomanTable table s = .ok n) ∨ fromRomanTable table s = .error .ValueError := by
  unfold fromRomanTable
  split
  · exact Or.inl ⟨_, rfl⟩
  · exact Or.inr rfl

theorem firstSeq_of_exists : ∀ (seqs : List String) (text : List Char),
    (∃ s ∈ seqs, seqMatches s text = some true) → ∃ s, firstSeq seqs text = some s ∧ seqMatches s text = some true
  | [], _, ⟨s, hs, _⟩ => by simp at hs
  | x :: rest, text, ⟨s, hs, hm⟩ => by
    unfold firstSeq
    split
    · next hx => exact ⟨x, rfl, hx⟩
    · next hx =>
      rcases List.mem_cons.mp hs with rfl | hr
      · exact absurd hm hx
      · exact firstSeq_of_exists rest text ⟨s, hr, hm⟩

/-- the sequence names that have a pattern (and a converter) -/
theorem seqMatches_ne_none {s : String} {text : List Char} :
    seqMatches s text ≠ none ↔ s ∈ ["arabic", "loweralpha", "upperalpha", "lowerroman", "upperroman"] := by
  simp only [List.mem_cons, List.not_mem_nil, or_false]
  constructor
  · intro h
    apply Decidable.byContradiction
    intro hn
    simp only [not_or] at hn
    exact h (by simp [seqMatches, hn])
  · rintro (rfl | rfl | rfl | rfl | rfl) <;> simp [seqMatches]

theorem fromRoman_err {R : Roman} {s : List Char} {e : PyErr} (h : fromRoman R s = .error e) : e = .ValueError := by
  rcases fromRoman_total R s with ⟨n, hn⟩ | hn <;> rw [hn] at h <;> cases h
  rfl

/-- a converter applied to a text its own pattern accepts can only fail with ValueError -/
theorem convert_err (R : Roman) (s : String) (text : List Char) (hm : seqMatches s text = some true)
    (e : PyErr) (h : convert R s text = .error e) : e = .ValueError := by
  have hs := (seqMatches_ne_none (s := s) (text := text)).mp (by simp [hm])
  simp only [List.mem_cons, List.not_mem_nil, or_false] at hs
  rcases hs with rfl | rfl | rfl | rfl | rfl <;> simp only [convert, String.reduceEq, if_true, if_false] at h
  · split at h <;> cases h
    rfl
  -- the pattern of the alphabetic sequences accepts one character only, and that is what their converters take
  · rcases text with _ | ⟨c, _ | _⟩ <;> simp [seqMatches] at hm h
  · rcases text with _ | ⟨c, _ | _⟩ <;> simp [seqMatches] at hm h
  · exact fromRoman_err h
  · exact fromRoman_err h

theorem hintSeq_ok (text : List Char) (expected : Option String)
    (he : ∀ e, expected = some e → seqMatches e text ≠ none) :
    ∃ s, hintSeq text expected = .ok s ∧ (s = "" ∨ seqMatches s text = some true) := by
  unfold hintSeq
  split
  · next e =>
    split
    · next h => exact absurd h (he e rfl)
    · next h => exact ⟨e, rfl, .inr h⟩
    · exact ⟨"", rfl, .inl rfl⟩
  · split
    · next h => exact ⟨_, rfl, .inr (by subst h; decide)⟩
    · split
      · next h => exact ⟨_, rfl, .inr (by subst h; decide)⟩
      · exact ⟨"", rfl, .inl rfl⟩

theorem determineSeq_ok (T : Tables) (text : List Char) (expected : Option String) (hm : EnumeratorMatch T text)
    (he : ∀ e, expected = some e → seqMatches e text ≠ none) :
    ∃ s, determineSeq T text expected = .ok s ∧ (s = "#" ∨ seqMatches s text = some true) := by
  unfold determineSeq
  split
  · exact ⟨"#", rfl, .inl rfl⟩
  · next hhash =>
    obtain ⟨f, hf, hfm⟩ := firstSeq_of_exists T.sequences text (hm.resolve_left hhash)
    obtain ⟨s, hs, hsm⟩ := hintSeq_ok text expected he
    rw [hs]
    simp only
    split
    · next hne => exact ⟨s, rfl, .inr (hsm.resolve_left hne)⟩
    · rw [hf]
      exact ⟨f, rfl, .inr hfm⟩

theorem ordinalOf_ok (T : Tables) (s : String) (text : List Char)
    (hh : onConvertError T.handlers .ValueError = .ok none)
    (hs : s = "#" ∨ seqMatches s text = some true) : ∃ o, ordinalOf T s text = .ok o := by
  unfold ordinalOf
  split
  · exact ⟨_, rfl⟩
  · next hne =>
    cases hc : convert T.roman s text with
    | ok n => exact ⟨_, rfl⟩
    | error e =>
      cases convert_err T.roman s text (hs.resolve_left hne) e hc
      exact ⟨none, hh⟩

/-- `Body.parse_enumerator` returns when the text is one the enumerator pattern matches, the expected sequence (if any)
is one that has a pattern, and the `except` clause around the converter call takes `ValueError` -/
theorem parseEnumerator_ok (T : Tables) (text : List Char) (expected : Option String)
    (hh : onConvertError T.handlers .ValueError = .ok none)
    (hm : EnumeratorMatch T text)
    (he : ∀ e, expected = some e → seqMatches e text ≠ none) :
    ∃ r, parseEnumerator T text expected = .ok r := by
  obtain ⟨s, hs, hsm⟩ := determineSeq_ok T text expected hm he
  obtain ⟨o, ho⟩ := ordinalOf_ok T s text hh hsm
  exact ⟨(s, o), by simp [parseEnumerator, hs, ho]⟩

end SnootyVerif.Enumerator
