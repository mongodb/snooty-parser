import SnootyVerif.Model.SpecInherit

/-! Helper lemmas for C16 (`Spec._resolve_category` model). -/
namespace SnootyVerif.SpecInherit

theorem keys_setEntry (idx : Index) (k : String) (e : Entry) : keys (setEntry idx k e) = keys idx := by
  unfold keys setEntry
  rw [List.map_map]
  apply List.map_congr_left
  intro kv _
  simp only [Function.comp]
  split <;> rfl

theorem lookup_some_mem_keys (idx : Index) (p : String) (pe : Entry) (h : lookup idx p = some pe) :
    p ∈ keys idx := by
  induction idx with
  | nil => cases h
  | cons kv rest ih =>
    rw [lookup] at h
    split at h
    · next hk => exact hk ▸ List.mem_cons_self
    · exact List.mem_cons_of_mem _ (ih h)

theorem resolveValue_keys (fuel : Nat) (idx : Index) (pending resolved : List String) (key : String)
    (e : Entry) (idx' : Index) (r' : List String) (out : Entry)
    (h : resolveValue fuel idx pending resolved key e = .ok (idx', r', out)) : keys idx' = keys idx := by
  induction fuel generalizing pending key e idx' r' out with
  | zero => cases h
  | succ fuel ih =>
    simp only [resolveValue] at h
    -- of the six leaves of the definition three return: two leave the index alone
    repeat' split at h
    all_goals cases h
    · rfl
    · rfl
    · rw [keys_setEntry]
      exact ih _ _ _ _ _ _ ‹_›

/-- the recursion bound can only be hit in the recursive call, on the parent -/
theorem resolveValue_fuel_inv {fuel : Nat} {idx : Index} {pending resolved : List String} {key : String}
    {e : Entry} (h : resolveValue (fuel + 1) idx pending resolved key e = .error .fuel) :
    key ∉ pending ∧ ∃ p pe, lookup idx p = some pe ∧
      resolveValue fuel idx (key :: pending) resolved p pe = .error .fuel := by
  simp only [resolveValue] at h
  split at h
  · cases h
  · next hnp =>
    -- every other leaf of the definition returns a value or one of the two `ValueError`s
    repeat' split at h
    all_goals cases h
    exact ⟨hnp, _, _, ‹lookup idx _ = _›, ‹resolveValue _ _ _ _ _ _ = _›⟩

/-- `pending` is a duplicate-free path of keys of the index, so its length is bounded by their number:
fuel for the keys not yet on the path, and one more, is never used up. -/
theorem resolveValue_no_fuel (fuel : Nat) (idx : Index) (pending resolved : List String) (key : String)
    (e : Entry) (hnd : pending.Nodup) (hsub : ∀ x ∈ pending, x ∈ keys idx) (hkey : key ∈ keys idx)
    (hb : (keys idx).length + 1 ≤ fuel + pending.length) :
    resolveValue fuel idx pending resolved key e ≠ .error .fuel := by
  induction fuel generalizing pending key e with
  | zero =>
    have := hnd.length_le_of_subset hsub
    omega
  | succ fuel ih =>
    intro h
    obtain ⟨hnp, p, pe, hpe, hrec⟩ := resolveValue_fuel_inv h
    exact ih (key :: pending) p pe (List.nodup_cons.mpr ⟨hnp, hnd⟩)
      (List.forall_mem_cons.mpr ⟨hkey, hsub⟩) (lookup_some_mem_keys idx p pe hpe)
      (by simp only [List.length_cons]; omega) hrec

theorem resolveLoop_no_fuel (fuel : Nat) (items : List (String × Entry)) (idx : Index)
    (resolved : List String) (hmem : ∀ kv ∈ items, kv.1 ∈ keys idx) (hb : (keys idx).length + 1 ≤ fuel) :
    resolveLoop fuel items idx resolved ≠ .error .fuel := by
  induction items generalizing idx resolved with
  | nil => nofun
  | cons kv rest ih =>
    rw [resolveLoop]
    split
    · next err herr =>
      intro h
      cases h
      exact resolveValue_no_fuel fuel idx [] resolved kv.1 kv.2 List.nodup_nil nofun
        (hmem kv List.mem_cons_self) hb herr
    · next idx' r' out hok =>
      have hk := resolveValue_keys fuel idx [] resolved kv.1 kv.2 idx' r' out hok
      exact ih idx' r' (fun kv hkv => hk ▸ hmem kv (List.mem_cons_of_mem _ hkv)) (hk ▸ hb)

theorem resolveCategory_no_fuel (idx : Index) : resolveCategory idx ≠ .error .fuel := by
  unfold resolveCategory
  split
  · next e he =>
    intro h
    cases h
    exact resolveLoop_no_fuel (idx.length + 1) idx idx [] (fun kv hkv => List.mem_map_of_mem hkv)
      (by simp [keys]) he
  · nofun

theorem mergeFields_get (cs bs : List (Option String)) (i : Nat) (hc : i < cs.length) (hb : i < bs.length) :
    (mergeFields cs bs)[i]? = some (match cs[i] with | some x => some x | none => bs[i]) := by
  induction cs generalizing bs i with
  | nil => cases hc
  | cons c cs ih =>
    cases bs with
    | nil => cases hb
    | cons b bs =>
      cases i with
      | zero => cases c <;> rfl
      | succ i =>
        simp only [mergeFields, List.getElem?_cons_succ, List.getElem_cons_succ]
        exact ih bs i (Nat.lt_of_succ_lt_succ hc) (Nat.lt_of_succ_lt_succ hb)

end SnootyVerif.SpecInherit
