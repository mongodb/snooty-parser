import SnootyVerif.Model.Diag

/-!
Lemmas for C14 (diagnostic delivery).

A dict is read through `m.lookup f` (`mergedAt m f` is its `getD []`) and `keys m`; a stream through `getAll s f`.
Every assignment the model makes is a `dictSet` at one key (`appendAt_eq`, `parsedStep_eq`), so `lookup_dictSet` is the
only induction over one. The part of a merge after the per-source dict is a stream of `(key, list)` events appended onto
it (`mergeFrom_eq`), and what the result holds for a file is what the base held followed by what the stream carries for
that file (`mergedAt_addOrphan`). The page store (`storeSet`, `lookupOut`) is the same structure on another type and has
its own copies of the lookup lemmas.
-/
namespace SnootyVerif.Diag

theorem nodup_concat {α : Type} {l : List α} {a : α} (hl : l.Nodup) (ha : a ∉ l) : (l ++ [a]).Nodup := by
  rw [List.nodup_append]
  refine ⟨hl, List.pairwise_singleton _ _, fun x hx b hb e => ha ?_⟩
  rwa [e, List.mem_singleton.mp hb] at hx

theorem ite_ite_comm {α : Type} {p q : Prop} [Decidable p] [Decidable q] (a b c : α) (h : p → ¬ q) :
    (if p then a else if q then b else c) = if q then b else if p then a else c := by
  by_cases hp : p
  · rw [if_pos hp, if_neg (h hp), if_pos hp]
  · rw [if_neg hp, if_neg hp]

theorem lookup_cons_eq (k f : FileId) (v : List D) (t : DMap) :
    List.lookup f ((k, v) :: t) = if k = f then some v else t.lookup f := by
  rw [List.lookup_cons]
  by_cases h : k = f
  · rw [if_pos h, beq_iff_eq.mpr h.symm]
  · rw [if_neg h, beq_eq_false_iff_ne.mpr (Ne.symm h)]

theorem lookup_isSome_iff_mem_keys (m : DMap) (f : FileId) : (m.lookup f).isSome ↔ f ∈ keys m := by
  rw [List.lookup_isSome_iff, keys, List.mem_map]
  exact ⟨fun ⟨e, he, h⟩ => ⟨e, he, (beq_iff_eq.mp h).symm⟩, fun ⟨e, he, h⟩ => ⟨e, he, beq_iff_eq.mpr h.symm⟩⟩

theorem mergedAt_cons (k f : FileId) (v : List D) (t : DMap) :
    mergedAt ((k, v) :: t) f = if k = f then v else mergedAt t f := by
  rw [mergedAt, lookup_cons_eq]; split <;> rfl

theorem mergedAt_of_not_mem_keys (m : DMap) (f : FileId) (h : f ∉ keys m) : mergedAt m f = [] := by
  rw [mergedAt, Option.not_isSome_iff_eq_none.mp (mt (lookup_isSome_iff_mem_keys m f).mp h)]; rfl

theorem lookup_dictSet (m : DMap) (k f : FileId) (v : List D) :
    (dictSet m k v).lookup f = if k = f then some v else m.lookup f := by
  induction m with
  | nil => exact lookup_cons_eq ..
  | cons e t ih =>
    obtain ⟨k', v'⟩ := e
    rw [dictSet]; split
    · subst k'; rw [lookup_cons_eq, lookup_cons_eq]; split <;> rfl
    · rename_i hk
      rw [lookup_cons_eq, lookup_cons_eq, ih]
      exact ite_ite_comm _ _ _ fun h e => hk (h.trans e.symm)

theorem mergedAt_dictSet (m : DMap) (k f : FileId) (v : List D) :
    mergedAt (dictSet m k v) f = if k = f then v else mergedAt m f := by
  rw [mergedAt, lookup_dictSet]; split <;> rfl

theorem keys_dictSet (m : DMap) (k : FileId) (v : List D) (f : FileId) :
    f ∈ keys (dictSet m k v) ↔ f ∈ keys m ∨ f = k := by
  rw [← lookup_isSome_iff_mem_keys, ← lookup_isSome_iff_mem_keys, lookup_dictSet]
  by_cases h : k = f
  · rw [if_pos h]; exact ⟨fun _ => .inr h.symm, fun _ => rfl⟩
  · rw [if_neg h]; exact ⟨.inl, fun h' => h'.resolve_right (Ne.symm h)⟩

/-- the keys left behind by a loop whose every step assigns at one key -/
theorem keys_foldl {σ : Type} {step : DMap → σ → DMap} {key : σ → FileId}
    (h : ∀ a x f, f ∈ keys (step a x) ↔ f ∈ keys a ∨ f = key x) (xs : List σ) (acc : DMap) (f : FileId) :
    f ∈ keys (xs.foldl step acc) ↔ f ∈ keys acc ∨ f ∈ xs.map key := by
  induction xs generalizing acc with
  | nil => exact (or_iff_left List.not_mem_nil).symm
  | cons x t ih => rw [List.foldl_cons, ih, h, List.map_cons, List.mem_cons, or_assoc]

theorem appendAt_eq (m : DMap) (k : FileId) (xs : List D) :
    appendAt m k xs = dictSet m k (mergedAt m k ++ xs) := by
  unfold appendAt mergedAt; cases m.lookup k <;> rfl

theorem mergedAt_appendAt (m : DMap) (k f : FileId) (xs : List D) :
    mergedAt (appendAt m k xs) f = mergedAt m f ++ if k = f then xs else [] := by
  rw [appendAt_eq, mergedAt_dictSet]
  by_cases h : k = f
  · subst h; rw [if_pos rfl, if_pos rfl]
  · rw [if_neg h, if_neg h, List.append_nil]

theorem keys_appendAt (m : DMap) (k : FileId) (xs : List D) (f : FileId) :
    f ∈ keys (appendAt m k xs) ↔ f ∈ keys m ∨ f = k := by
  rw [appendAt_eq]; exact keys_dictSet ..

theorem getAll_cons (e : FileId × List D) (t : DMap) (f : FileId) :
    getAll (e :: t) f = (if e.1 = f then e.2 else []) ++ getAll t f := rfl

theorem getAll_append (a b : DMap) (f : FileId) : getAll (a ++ b) f = getAll a f ++ getAll b f :=
  List.flatMap_append

theorem getAll_of_not_mem_keys (m : DMap) (f : FileId) (h : f ∉ keys m) : getAll m f = [] := by
  rw [getAll, List.flatMap_eq_nil_iff]
  exact fun e he => if_neg fun (a : e.1 = f) => h (a ▸ (List.mem_map_of_mem he : e.1 ∈ keys m))

/-- the entry `lookup` finds is the first of those `getAll` concatenates -/
theorem mem_getAll_of_mem_mergedAt (m : DMap) (f : FileId) (d : D) (h : d ∈ mergedAt m f) : d ∈ getAll m f := by
  induction m with
  | nil => exact h
  | cons e t ih =>
    obtain ⟨k, v⟩ := e
    rw [mergedAt_cons] at h; rw [getAll_cons, List.mem_append]
    by_cases hk : k = f
    · rw [if_pos hk] at h ⊢; exact .inl h
    · rw [if_neg hk] at h; exact .inr (ih h)

theorem getAll_eq_mergedAt_of_nodup (m : DMap) (f : FileId) (h : (keys m).Nodup) : getAll m f = mergedAt m f := by
  induction m with
  | nil => rfl
  | cons e t ih =>
    obtain ⟨k, v⟩ := e
    have ⟨hk, ht⟩ := List.nodup_cons.mp h
    rw [mergedAt_cons, getAll_cons, ih ht]
    by_cases hf : k = f
    · subst hf; rw [if_pos rfl, if_pos rfl, mergedAt_of_not_mem_keys t k hk, List.append_nil]
    · rw [if_neg hf, if_neg hf]; rfl

theorem mergedAt_addOrphan (acc s : DMap) (f : FileId) :
    mergedAt (addOrphan acc s) f = mergedAt acc f ++ getAll s f := by
  induction s generalizing acc with
  | nil => exact (List.append_nil _).symm
  | cons e t ih =>
    show mergedAt (addOrphan (appendAt acc e.1 e.2) t) f = _
    rw [ih, mergedAt_appendAt, getAll_cons, List.append_assoc]

theorem keys_addOrphan (acc s : DMap) (f : FileId) :
    f ∈ keys (addOrphan acc s) ↔ f ∈ keys acc ∨ f ∈ keys s :=
  keys_foldl (fun a e => keys_appendAt a e.1 e.2) s acc f

theorem mergeFrom_eq (base orphan : DMap) (order : List FileId) (others : List DMap) :
    mergeFrom base orphan order others =
      addOrphan base (orphan ++ order.map fun k => (k, extendFrom others k)) := by
  simp only [mergeFrom, mergeOthers, addOrphan, List.foldl_append, List.foldl_map]

theorem keys_append (a b : DMap) : keys (a ++ b) = keys a ++ keys b :=
  List.map_append

theorem keys_map_order (order : List FileId) (g : FileId → List D) :
    keys (order.map fun k => (k, g k)) = order := by
  rw [keys, List.map_map]; exact List.map_id _

theorem getAll_map_order (order : List FileId) (g : FileId → List D) (f : FileId) (hn : order.Nodup) :
    getAll (order.map fun k => (k, g k)) f = if f ∈ order then g f else [] := by
  induction order with
  | nil => rfl
  | cons k t ih =>
    have ⟨hk, ht⟩ := List.nodup_cons.mp hn
    rw [List.map_cons, getAll_cons, ih ht]
    by_cases h : k = f
    · subst h; simp [hk]
    · simp [h, Ne.symm h]

theorem mergedAt_mergeFrom (base orphan : DMap) (order : List FileId) (others : List DMap) (f : FileId) :
    mergedAt (mergeFrom base orphan order others) f =
      mergedAt base f ++ getAll orphan f ++ getAll (order.map fun k => (k, extendFrom others k)) f := by
  rw [mergeFrom_eq, mergedAt_addOrphan, getAll_append, List.append_assoc]

theorem keys_mergeFrom (base orphan : DMap) (order : List FileId) (others : List DMap) (f : FileId) :
    f ∈ keys (mergeFrom base orphan order others) ↔ f ∈ keys base ∨ f ∈ keys orphan ∨ f ∈ order := by
  rw [mergeFrom_eq, keys_addOrphan, keys_append, List.mem_append, keys_map_order]

theorem extendFrom_eq (others : List DMap) (f : FileId) : extendFrom others f = others.flatMap (mergedAt · f) := by
  unfold extendFrom mergedAt; congr; funext o; cases o.lookup f <;> rfl

theorem extendFrom_nil_of_not_mem (others : List DMap) (f : FileId) (h : ∀ o ∈ others, f ∉ keys o) :
    extendFrom others f = [] := by
  rw [extendFrom_eq, List.flatMap_eq_nil_iff]
  exact fun o ho => mergedAt_of_not_mem_keys o f (h o ho)

theorem mem_extendFrom {others : List DMap} {f : FileId} {d : D} (h : d ∈ extendFrom others f) :
    ∃ o ∈ others, d ∈ getAll o f := by
  rw [extendFrom_eq, List.mem_flatMap] at h
  exact h.imp fun o ho => ⟨ho.1, mem_getAll_of_mem_mergedAt o f d ho.2⟩

theorem accum_nil (ds : List D) : accum [] ds = ds := by
  simp [accum]

theorem parsedStep_eq (acc : DMap) (o : Out) :
    parsedStep acc o = dictSet acc o.src (accum (mergedAt acc o.src) o.ds) := by
  unfold parsedStep mergedAt; cases acc.lookup o.src <;> rfl

theorem mergedAt_foldl_parsedStep (parsed : List Out) (acc : DMap) (f : FileId) :
    mergedAt (parsed.foldl parsedStep acc) f =
      parsed.foldl (fun l o => if o.src = f then accum l o.ds else l) (mergedAt acc f) := by
  induction parsed generalizing acc with
  | nil => rfl
  | cons o t ih =>
    rw [List.foldl_cons, List.foldl_cons, ih, parsedStep_eq, mergedAt_dictSet]
    by_cases h : o.src = f
    · subst h; rw [if_pos rfl]
    · rw [if_neg h, if_neg h]

theorem mergedAt_parsedResult (parsed : List Out) (f : FileId) :
    mergedAt (parsedResult parsed) f = parsedUnion parsed f :=
  mergedAt_foldl_parsedStep parsed [] f

theorem keys_parsedResult (parsed : List Out) (f : FileId) :
    f ∈ keys (parsedResult parsed) ↔ f ∈ srcs parsed :=
  (keys_foldl (fun a o f => by rw [parsedStep_eq]; exact keys_dictSet ..) parsed [] f).trans
    (or_iff_right List.not_mem_nil)

theorem keys_parsedResultOld (parsed : List Out) (f : FileId) :
    f ∈ keys (parsedResultOld parsed) ↔ f ∈ srcs parsed :=
  (keys_foldl (fun a o => keys_dictSet a o.src o.ds) parsed [] f).trans (or_iff_right List.not_mem_nil)

theorem lookup_foldl_dictSet (parsed : List Out) (acc : DMap) (f : FileId) :
    (parsed.foldl (fun acc o => dictSet acc o.src o.ds) acc).lookup f =
      parsed.foldl (fun a o => if o.src = f then some o.ds else a) (acc.lookup f) := by
  induction parsed generalizing acc with
  | nil => rfl
  | cons o t ih => rw [List.foldl_cons, List.foldl_cons, ih, lookup_dictSet]

theorem lookup_parsedResultOld (parsed : List Out) (f : FileId) :
    (parsedResultOld parsed).lookup f = parsedLast parsed f :=
  lookup_foldl_dictSet parsed [] f

theorem mem_srcs {parsed : List Out} {o : Out} (ho : o ∈ parsed) : o.src ∈ srcs parsed :=
  List.mem_map_of_mem ho

/-- the comprehension keeps the list of *some* output of that source, if there is one -/
theorem parsedLast_cases (parsed : List Out) (f : FileId) :
    (parsedLast parsed f = none ∧ f ∉ srcs parsed) ∨ ∃ o ∈ parsed, o.src = f ∧ parsedLast parsed f = some o.ds := by
  unfold parsedLast
  generalize (none : Option (List D)) = init
  induction parsed generalizing init with
  | nil => exact .inl ⟨rfl, List.not_mem_nil⟩
  | cons o t ih =>
    rw [List.foldl_cons]
    rcases ih (if o.src = f then some o.ds else init) with ⟨h1, h2⟩ | ⟨o', ho', hs, he⟩
    · by_cases h : o.src = f
      · exact .inr ⟨o, List.mem_cons_self, h, by rw [h1, if_pos h]⟩
      · refine .inl ⟨by rw [h1, if_neg h], ?_⟩
        rw [srcs, List.map_cons, List.mem_cons, not_or]
        exact ⟨Ne.symm h, h2⟩
    · exact .inr ⟨o', List.mem_cons_of_mem _ ho', hs, he⟩

theorem parsedLast_none_iff (parsed : List Out) (f : FileId) :
    parsedLast parsed f = none ↔ f ∉ srcs parsed := by
  rcases parsedLast_cases parsed f with ⟨h1, h2⟩ | ⟨o, ho, hs, he⟩
  · exact iff_of_true h1 h2
  · rw [he]; exact iff_of_false nofun (not_not_intro (hs ▸ mem_srcs ho))

theorem parsedLast_of_equalLists (parsed : List Out) (f : FileId) (hE : EqualLists parsed)
    (o : Out) (ho : o ∈ parsed) (hs : o.src = f) : parsedLast parsed f = some o.ds := by
  rcases parsedLast_cases parsed f with ⟨_, h2⟩ | ⟨o', ho', hs', he⟩
  · exact absurd (hs ▸ mem_srcs ho) h2
  · rw [he, hE o' ho' o ho (hs'.trans hs.symm)]

theorem parsedAll_cons (o : Out) (t : List Out) (f : FileId) :
    parsedAll (o :: t) f = (if o.src = f then o.ds else []) ++ parsedAll t f := rfl

theorem parsedAll_append (a b : List Out) (f : FileId) :
    parsedAll (a ++ b) f = parsedAll a f ++ parsedAll b f :=
  List.flatMap_append

theorem mem_parsedAll {parsed : List Out} {f : FileId} {d : D} :
    d ∈ parsedAll parsed f ↔ ∃ o ∈ parsed, o.src = f ∧ d ∈ o.ds := by
  rw [parsedAll, List.mem_flatMap]
  refine exists_congr fun o => and_congr_right fun _ => ?_
  split <;> simp [*]

/-- the list the comprehension keeps was reported by the parse producer -/
theorem parsedLast_subset (parsed : List Out) (f : FileId) (l : List D)
    (h : parsedLast parsed f = some l) : ∀ d ∈ l, d ∈ parsedAll parsed f := by
  rcases parsedLast_cases parsed f with ⟨h1, _⟩ | ⟨o, ho, hs, he⟩
  · rw [h1] at h; cases h
  · rw [he] at h
    cases h
    exact fun d hd => mem_parsedAll.mpr ⟨o, ho, hs, hd⟩

theorem mem_parsedAll_of_mem_parsedUnion {parsed : List Out} {f : FileId} :
    ∀ d ∈ parsedUnion parsed f, d ∈ parsedAll parsed f := by
  refine List.foldlRecOn (motive := fun l => ∀ d ∈ l, d ∈ parsedAll parsed f) parsed _ nofun ?_
  intro l hl o ho d hd
  split at hd
  · rename_i hs
    rw [accum, List.mem_append, List.mem_filter] at hd
    exact hd.elim (hl d) fun h => mem_parsedAll.mpr ⟨o, ho, hs, h.1⟩
  · exact hl d hd

theorem dedupInto_cons (acc : List D) (d : D) (t : List D) :
    dedupInto acc (d :: t) =
      if d.oid ∈ acc.map (·.oid) then dedupInto acc t else dedupInto (acc ++ [d]) t := by
  rw [dedupInto]; simp only [List.contains_iff_mem]

theorem dedupInto_append (acc xs ys : List D) :
    dedupInto acc (xs ++ ys) = dedupInto (dedupInto acc xs) ys := by
  induction xs generalizing acc with
  | nil => rfl
  | cons d t ih =>
    rw [List.cons_append, dedupInto_cons, dedupInto_cons]
    split
    · exact ih acc
    · exact ih _

theorem dedupInto_eq_accum (acc ds : List D) (hn : (ds.map (·.oid)).Nodup) :
    dedupInto acc ds = accum acc ds := by
  induction ds generalizing acc with
  | nil => exact (List.append_nil acc).symm
  | cons d t ih =>
    have ⟨hd, ht⟩ := List.nodup_cons.mp hn
    rw [dedupInto, accum, List.filter_cons]
    split
    · rename_i hc; rw [ih acc ht, hc]; rfl
    · rename_i hc
      rw [ih _ ht, Bool.eq_false_iff.mpr hc, accum, List.append_assoc]
      -- no later element has the identity of `d`, so having seen `d` filters nothing more out of `t`
      refine congrArg (acc ++ d :: ·) (List.filter_congr fun x hx => ?_)
      have hne : ¬ x.oid = d.oid := fun e => hd (List.mem_map.mpr ⟨x, hx, e⟩)
      simp [hne]

theorem parsedUnion_eq_dedup (parsed : List Out) (f : FileId) (hU : OutputsNodup parsed) :
    parsedUnion parsed f = dedupInto [] (parsedAll parsed f) := by
  unfold parsedUnion
  generalize ([] : List D) = init
  induction parsed generalizing init with
  | nil => rfl
  | cons o t ih =>
    rw [List.foldl_cons, parsedAll_cons, ih fun x hx => hU x (List.mem_cons_of_mem _ hx)]
    by_cases hs : o.src = f
    · rw [if_pos hs, if_pos hs, dedupInto_append, dedupInto_eq_accum _ _ (hU o List.mem_cons_self)]
    · rw [if_neg hs, if_neg hs]; rfl

theorem mem_dedupInto (acc ds : List D) (d : D) (h : d ∈ dedupInto acc ds) : d ∈ acc ∨ d ∈ ds := by
  induction ds generalizing acc with
  | nil => exact .inl h
  | cons x t ih =>
    rw [dedupInto_cons] at h
    split at h
    · exact (ih acc h).imp_right (List.mem_cons_of_mem _)
    · rcases ih _ h with h1 | h1
      · rcases List.mem_append.mp h1 with h1 | h1
        · exact .inl h1
        · exact .inr (List.mem_singleton.mp h1 ▸ List.mem_cons_self)
      · exact .inr (List.mem_cons_of_mem _ h1)

theorem mem_oids_dedupInto (acc ds : List D) (i : Nat) :
    i ∈ (dedupInto acc ds).map (·.oid) ↔ i ∈ acc.map (·.oid) ∨ i ∈ ds.map (·.oid) := by
  induction ds generalizing acc with
  | nil => exact (or_iff_left List.not_mem_nil).symm
  | cons x t ih =>
    rw [dedupInto_cons, List.map_cons, List.mem_cons]
    split
    · rename_i hc
      -- `x` brings no new identity
      rw [ih, @or_left_comm _ (i = x.oid)]
      exact (or_iff_right_of_imp fun h => .inl (h ▸ hc)).symm
    · rw [ih, List.map_append, List.mem_append, or_assoc, List.map_cons, List.map_nil, List.mem_singleton]

theorem dedupInto_complete (acc ds : List D) (d : D) (h : d ∈ ds) :
    ∃ d' ∈ dedupInto acc ds, d'.oid = d.oid :=
  List.mem_map.mp ((mem_oids_dedupInto acc ds d.oid).mpr (.inr (List.mem_map_of_mem h)))

theorem dedupInto_nodup (acc ds : List D) (h : (acc.map (·.oid)).Nodup) :
    ((dedupInto acc ds).map (·.oid)).Nodup := by
  induction ds generalizing acc with
  | nil => exact h
  | cons x t ih =>
    rw [dedupInto_cons]
    split
    · exact ih acc h
    · rename_i hc
      exact ih _ (List.map_append ▸ nodup_concat h hc)

theorem mem_dedupInto_of_faithful {ds : List D} (hF : IdsFaithful ds) {d : D} (h : d ∈ ds) : d ∈ dedupInto [] ds := by
  obtain ⟨d', hd', he⟩ := dedupInto_complete [] ds d h
  rwa [← hF d' ((mem_dedupInto [] ds d' hd').resolve_left List.not_mem_nil) d h he]

theorem filterDiagnostics_eq (S : List String) (ds : List D) :
    filterDiagnostics S ds = ds.filter (fun d => decide (d.cls ∉ S)) := by
  have e : (fun d : D => !(S.contains d.cls)) = fun d => decide (d.cls ∉ S) := funext fun d => by simp
  rw [filterDiagnostics, e]
  split
  · rename_i h
    -- the shortcut for an empty silence list agrees with filtering by it
    rw [List.isEmpty_iff.mp h]
    exact (List.filter_eq_self.mpr fun d _ => by simp).symm
  · rfl

theorem mem_filterDiagnostics (S : List String) (ds : List D) (d : D) :
    d ∈ filterDiagnostics S ds ↔ d ∈ ds ∧ d.cls ∉ S := by
  rw [filterDiagnostics_eq, List.mem_filter, decide_eq_true_eq]

theorem filtered_clean (S : List String) (m : Stream) :
    ∀ e ∈ filtered S m, ∀ d ∈ e.2, d.cls ∉ S := by
  intro e he d hd
  obtain ⟨e', _, rfl⟩ := List.mem_map.mp he
  exact ((mem_filterDiagnostics S _ d).mp hd).2

theorem filtered_append (S : List String) (a b : Stream) :
    filtered S (a ++ b) = filtered S a ++ filtered S b :=
  List.map_append

theorem getAll_filtered (S : List String) (m : Stream) (f : FileId) :
    getAll (filtered S m) f = filterDiagnostics S (getAll m f) := by
  simp only [getAll, filtered, filterDiagnostics_eq, List.flatMap_map, List.filter_flatMap]
  congr; funext e; split <;> rfl

theorem getAll_outEvents (outs : List Out) (f : FileId) : getAll (outEvents outs) f = parsedAll outs f := by
  rw [getAll, outEvents, List.flatMap_map]; rfl

theorem countErrors_append (a b : Stream) : countErrors (a ++ b) = countErrors a + countErrors b := by
  rw [countErrors, List.flatMap_append, List.countP_append]; rfl

theorem countErrors_pos_iff (s : Stream) :
    0 < countErrors s ↔ ∃ e ∈ s, ∃ d ∈ e.2, 3 ≤ d.sev := by
  unfold countErrors
  rw [List.countP_pos_iff]
  simp only [List.mem_flatMap, isError, decide_eq_true_eq]
  constructor
  · rintro ⟨d, ⟨e, he, hd⟩, h⟩; exact ⟨e, he, d, hd, h⟩
  · rintro ⟨e, he, d, hd, h⟩; exact ⟨d, ⟨e, he, hd⟩, h⟩

theorem storeSet_of_not_mem (m : List Out) (o : Out) (h : o.out ∉ m.map (·.out)) :
    storeSet m o = m ++ [o] := by
  induction m with
  | nil => rfl
  | cons a t ih =>
    rw [List.map_cons, List.mem_cons, not_or] at h
    rw [storeSet, if_neg (Ne.symm h.1), ih h.2, List.cons_append]

theorem foldl_storeSet_nodup (outs acc : List Out) (h : ((acc ++ outs).map (·.out)).Nodup) :
    outs.foldl storeSet acc = acc ++ outs := by
  induction outs generalizing acc with
  | nil => exact (List.append_nil _).symm
  | cons o t ih =>
    have e : acc ++ o :: t = acc ++ [o] ++ t := (List.append_cons ..)
    have hnot : o.out ∉ acc.map (·.out) := fun hm => by
      rw [List.map_append, List.nodup_append] at h
      exact h.2.2 _ hm _ List.mem_cons_self rfl
    rw [List.foldl_cons, storeSet_of_not_mem acc o hnot, e, ih _ (e ▸ h)]

theorem pagesStore_nodup (outs : List Out) (h : (outs.map (·.out)).Nodup) : pagesStore outs = outs :=
  foldl_storeSet_nodup outs [] h

/-- `initialization_diagnostics` is what merging the events `__init__` delivers leaves behind -/
theorem initMap_eq (cfg : FileId) (init : List (List D)) :
    initMap cfg init = addOrphan [] ((init.filter (fun b => !b.isEmpty)).map (fun b => (cfg, b))) := by
  unfold initMap
  generalize ([] : DMap) = acc
  induction init generalizing acc with
  | nil => rfl
  | cons b t ih =>
    rw [List.foldl_cons, ih, List.filter_cons]
    cases b.isEmpty <;> rfl

theorem getAll_map_const (cfg f : FileId) (bs : List (List D)) :
    getAll (bs.map fun b => (cfg, b)) f = if f = cfg then bs.flatten else [] := by
  rw [getAll, List.flatMap_map]
  split
  · subst f; simp
  · rename_i h; simp [Ne.symm h]

theorem getAll_initEvents (cfg : FileId) (init : List (List D)) (f : FileId) :
    getAll ((init.filter (fun b => !b.isEmpty)).map (fun b => (cfg, b))) f =
      if f = cfg then init.flatten else [] := by
  rw [getAll_map_const, List.flatten_filter_not_isEmpty]

theorem mergedAt_initMap (cfg : FileId) (init : List (List D)) (f : FileId) :
    mergedAt (initMap cfg init) f = if f = cfg then init.flatten else [] := by
  rw [initMap_eq, mergedAt_addOrphan, getAll_initEvents]; rfl

theorem keys_initMap (cfg : FileId) (init : List (List D)) (f : FileId) :
    f ∈ keys (initMap cfg init) → f = cfg := by
  rw [initMap_eq, keys_addOrphan]
  rintro (h | h)
  · cases h
  · obtain ⟨e, he, rfl⟩ := List.mem_map.mp h
    obtain ⟨b, _, rfl⟩ := List.mem_map.mp he
    rfl

mutual
theorem walk_owned (stack : List FileId) (cur : FileId) (acc : Stream) (x : Node) :
    walk (stack ++ [cur]) acc x = some (acc ++ owned cur x) := by
  cases x with
  | fault d => rw [walk, List.getLast?_concat]; rfl
  | plain cs => rw [walk, owned]; exact walkList_owned stack cur acc cs
  | root f cs => rw [walk, owned]; exact walkList_owned (stack ++ [cur]) f acc cs
theorem walkList_owned (stack : List FileId) (cur : FileId) (acc : Stream) (xs : List Node) :
    walkList (stack ++ [cur]) acc xs = some (acc ++ ownedList cur xs) := by
  cases xs with
  | nil => rw [walkList, ownedList, List.append_nil]
  | cons c cs =>
    rw [walkList, walk_owned stack cur acc c, ownedList, ← List.append_assoc]
    exact walkList_owned stack cur _ cs
end

theorem lookupOut_cons (a : Out) (t : List Out) (k : FileId) :
    lookupOut (a :: t) k = if a.out = k then some a else lookupOut t k := by
  rw [lookupOut, List.find?_cons]; split <;> simp_all [lookupOut]

theorem lookupOut_storeSet (m : List Out) (o : Out) (k : FileId) :
    lookupOut (storeSet m o) k = if o.out = k then some o else lookupOut m k := by
  induction m with
  | nil => exact lookupOut_cons ..
  | cons a t ih =>
    rw [storeSet]; split
    · rename_i ha
      rw [lookupOut_cons, lookupOut_cons, ha]; split <;> rfl
    · rename_i ha
      rw [lookupOut_cons, lookupOut_cons, ih]
      exact ite_ite_comm _ _ _ fun h e => ha (h.trans e.symm)

theorem lookupOut_filter_ne (m : List Out) (k' k : FileId) :
    lookupOut (m.filter (fun o => o.out != k')) k = if k' = k then none else lookupOut m k := by
  induction m with
  | nil => split <;> rfl
  | cons a t ih =>
    rw [List.filter_cons, lookupOut_cons]
    by_cases ha : a.out = k'
    · rw [if_neg fun h => bne_iff_ne.mp h ha, ih, ha]; split <;> rfl
    · rw [if_pos (bne_iff_ne.mpr ha), lookupOut_cons, ih]
      exact ite_ite_comm _ _ _ fun h e => ha (h.trans e.symm)

theorem lookup_filter_ne (m : DMap) (k' k : FileId) :
    (m.filter (fun e => e.1 != k')).lookup k = if k' = k then none else m.lookup k := by
  induction m with
  | nil => split <;> rfl
  | cons a t ih =>
    obtain ⟨ak, av⟩ := a
    rw [List.filter_cons, lookup_cons_eq]
    by_cases ha : ak = k'
    · rw [if_neg fun h => bne_iff_ne.mp h ha, ih, ha]; split <;> rfl
    · rw [if_pos (bne_iff_ne.mpr ha), lookup_cons_eq, ih]
      exact ite_ite_comm _ _ _ fun h e => ha (h.trans e.symm)

theorem run_snoc (earlier : List Op) (op : Op) : Store.run (earlier ++ [op]) = (Store.run earlier).step op := by
  rw [Store.run, List.foldl_append]; rfl

theorem map_out_storeSet_of_mem (m : List Out) (o : Out) (h : o.out ∈ m.map (·.out)) :
    (storeSet m o).map (·.out) = m.map (·.out) := by
  induction m with
  | nil => cases h
  | cons a t ih =>
    rw [storeSet]; split
    · rename_i ha; rw [List.map_cons, List.map_cons, ha]
    · rename_i ha
      rw [List.map_cons, List.map_cons, ih ((List.mem_cons.mp h).resolve_left (Ne.symm ha))]

theorem storeSet_keys_nodup (m : List Out) (o : Out) (h : (m.map (·.out)).Nodup) :
    ((storeSet m o).map (·.out)).Nodup := by
  by_cases hm : o.out ∈ m.map (·.out)
  · rwa [map_out_storeSet_of_mem m o hm]
  · rw [storeSet_of_not_mem m o hm, List.map_append]
    exact nodup_concat h hm

theorem step_keys_nodup (s : Store) (op : Op) (h : (s.parsed.map (·.out)).Nodup) :
    ((s.step op).parsed.map (·.out)).Nodup := by
  cases op with
  | set o => exact storeSet_keys_nodup _ _ h
  | setOrphan k ds => exact h
  | del k => exact h.sublist (List.Sublist.map _ List.filter_sublist)

end SnootyVerif.Diag
