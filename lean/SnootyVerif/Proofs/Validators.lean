import SnootyVerif.Model.Validators
namespace SnootyVerif.Validators

def allowed (e : PyErr) : Prop := e = .ValueError ∨ e = .TypeError

theorem map_error {α β : Type} {x : Except PyErr α} {f : α → β} {e : PyErr} (h : x.map f = .error e) : x = .error e := by
  cases x <;> simp_all [Except.map]

theorem pyIntBody_err {E : Env} {neg : Bool} {b : List Char} {e : PyErr} (h : pyIntBody E neg b = .error e) :
    e = .ValueError := by
  unfold pyIntBody at h
  split at h
  · cases h; rfl
  · split at h <;> cases h
    rfl

theorem pyInt_err {E : Env} {s : List Char} {e : PyErr} (h : pyInt E s = .error e) : e = .ValueError := by
  unfold pyInt at h
  split at h <;> exact pyIntBody_err h

theorem choice_err {E : Env} {a : Option (List Char)} {vs : List (List Char)} {e : PyErr}
    (h : choice E a vs = .error e) : e = .ValueError := by
  unfold choice at h
  split at h
  · cases h; rfl
  · simp only at h
    split at h <;> cases h
    rfl

theorem getMeasure_err {s : List Char} {us : List (List Char)} {e : PyErr} (h : getMeasure s us = .error e) :
    e = .ValueError := by
  unfold getMeasure at h
  split at h
  · split at h <;> cases h
    rfl
  · cases h; rfl

theorem length_err {a : Option (List Char)} {e : PyErr} (h : lengthOrPercentage a = .error e) : allowed e := by
  unfold lengthOrPercentage at h
  split at h
  · cases h; exact .inr rfl
  · split at h
    · cases h
    · split at h
      · cases h
      · exact .inl (getMeasure_err h)

mutual
theorem validate_err (E : Env) : ∀ (k : Kind) (a : Option (List Char)) (e : PyErr), validate E k a = .error e → allowed e
  | .integer, a, e, h => by
    unfold validate at h
    split at h
    · cases h; exact .inr rfl
    · exact .inl (pyInt_err (map_error h))
  | .nonnegativeInteger, a, e, h => by
    unfold validate at h
    split at h
    · cases h; exact .inr rfl
    · split at h
      · split at h <;> cases h
        exact .inl rfl
      · next hp => cases h; exact .inl (pyInt_err hp)
  | .string, a, e, h | .uri, a, e, h | .flag, a, e, h => by
    unfold validate at h
    split at h <;> cases h
    exact .inl rfl
  | .length, a, e, h => by
    unfold validate at h
    exact length_err (map_error h)
  | .boolean, a, e, h => by
    unfold validate at h
    split at h
    · exact .inl (choice_err (map_error h))
    · cases h
  | .enum values, a, e, h => by
    unfold validate at h
    exact .inl (choice_err (map_error h))
  | .union ks, a, e, h => by
    unfold validate at h
    exact validateUnion_err E ks a e h
theorem validateUnion_err (E : Env) : ∀ (ks : List Kind) (a : Option (List Char)) (e : PyErr), validateUnion E ks a = .error e → allowed e
  | [], a, e, h => by
    unfold validateUnion at h
    cases h; exact .inl rfl
  | k :: ks, a, e, h => by
    unfold validateUnion at h
    split at h
    · cases h
    · exact validateUnion_err E ks a e h
end

end SnootyVerif.Validators
