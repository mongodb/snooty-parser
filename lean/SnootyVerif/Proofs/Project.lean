import SnootyVerif.Model.Project

/-! Lemmas for C12. Under key ownership (`owns`) the store operations act key by key (`putAll_apply`, `refresh_apply`,
`storeOf_apply`). What an operation owes is `Unseen`: no source outside its re-parse set can tell the new environment
from the old one; the obligations `Covers` and `CoversCh` both give that. Re-parsing then carries `Good`, "the store is
the clean-build store of the current environment", from the old environment to the new (`Good.refreshAll`); `Inv` adds
the cache. The models that keep a dependency graph add one conjunct (`CodeInv`), preserved for the same reason. -/
namespace SnootyVerif.Project
set_option linter.unusedSectionVars false

variable {Path Key Page Content Result : Type} [DecidableEq Path] [DecidableEq Key]

theorem lookupLast_cons (k k' : Key) (pg : Page) (rest : List (Key × Page)) :
    lookupLast k ((k', pg) :: rest) =
      (match lookupLast k rest with | some x => some x | none => if k' = k then some pg else none) := rfl

theorem lookupLast_mem {k : Key} {pg : Page} {out : List (Key × Page)} (h : lookupLast k out = some pg) :
    (k, pg) ∈ out := by
  induction out with
  | nil => cases h
  | cons kp rest ih =>
    rw [lookupLast_cons] at h
    split at h
    · next hr => exact List.mem_cons_of_mem _ (ih (hr.trans h))
    · split at h
      · next hk => cases h; cases hk; exact List.mem_cons_self
      · cases h

theorem putAll_apply (p : Path) (k : Key) (out : List (Key × Page)) : ∀ (s : Store Path Key Page),
    putAll s p out k = (match lookupLast k out with | some pg => some (pg, p) | none => s k) := by
  induction out with
  | nil => exact fun _ => rfl
  | cons kp rest ih =>
    intro s
    show putAll _ p rest k = _
    rw [ih, lookupLast_cons]
    cases lookupLast k rest with
    | some x => rfl
    | none =>
      by_cases hk : k = kp.1
      · subst hk; simp
      · simp [hk, Ne.symm hk]

/-- the specification of the store of a clean build, key by key -/
def spec (P : Parser Path Key Page Content) (owner : Key → Path) (srcs : List Path)
    (e : Env Path Content) (k : Key) : Option (Page × Path) :=
  if owner k ∈ srcs ∧ (e (owner k)).isSome = true then
    (match lookupLast k (P.parse e (owner k)) with | some pg => some (pg, owner k) | none => none)
  else none

/-- every stored page is filed under the source that owns its key -/
def WellOwned (owner : Key → Path) (s : Store Path Key Page) : Prop :=
  ∀ k pg q, s k = some (pg, q) → q = owner k

def Good (P : Parser Path Key Page Content) (owner : Key → Path) (srcs : List Path)
    (e : Env Path Content) (s : Store Path Key Page) : Prop :=
  ∀ k, s k = spec P owner srcs e k

section
variable {P : Parser Path Key Page Content} {owner : Key → Path} {srcs : List Path}

theorem spec_wellOwned (e : Env Path Content) : WellOwned owner (spec P owner srcs e) := by
  intro k pg q h
  unfold spec at h
  split at h
  · split at h
    · cases h; rfl
    · cases h
  · cases h

theorem Good.wellOwned {e : Env Path Content} {s : Store Path Key Page} (h : Good P owner srcs e s) :
    WellOwned owner s :=
  fun k pg q hk => spec_wellOwned e k pg q ((h k).symm.trans hk)

theorem dropSource_apply_owner {s : Store Path Key Page} (hw : WellOwned owner s) (p : Path) (k : Key) :
    dropSource s p k = if owner k = p then none else s k := by
  unfold dropSource
  cases hs : s k with
  | none => simp
  | some v =>
    obtain ⟨pg, q⟩ := v
    rw [← hw k pg q hs]

variable (owns : ∀ e p k pg, (k, pg) ∈ P.parse e p → owner k = p)
include owns

theorem lookupLast_other {e : Env Path Content} {p : Path} {k : Key} (h : owner k ≠ p) :
    lookupLast k (P.parse e p) = none := by
  cases hr : lookupLast k (P.parse e p) with
  | none => rfl
  | some pg => exact absurd (owns e p k pg (lookupLast_mem hr)) h

theorem refresh_apply (e : Env Path Content) {s : Store Path Key Page} (hw : WellOwned owner s)
    (p : Path) (k : Key) :
    refresh P srcs e s p k = if owner k = p then spec P owner srcs e k else s k := by
  unfold refresh spec
  by_cases hk : owner k = p
  · subst hk
    rw [if_pos rfl]
    split
    · rw [putAll_apply, dropSource_apply_owner hw, if_pos rfl]
    · rw [dropSource_apply_owner hw, if_pos rfl]
  · rw [if_neg hk]
    split
    · rw [putAll_apply, lookupLast_other owns hk, dropSource_apply_owner hw, if_neg hk]
    · rw [dropSource_apply_owner hw, if_neg hk]

theorem refresh_wellOwned (e : Env Path Content) {s : Store Path Key Page} (hw : WellOwned owner s)
    (p : Path) : WellOwned owner (refresh P srcs e s p) := by
  intro k pg q h
  rw [refresh_apply owns e hw] at h
  split at h
  · exact spec_wellOwned e k pg q h
  · exact hw k pg q h

theorem refreshAll_apply (e : Env Path Content) (k : Key) (R : List Path) :
    ∀ (s : Store Path Key Page), WellOwned owner s →
      R.foldl (refresh P srcs e) s k = if owner k ∈ R then spec P owner srcs e k else s k := by
  induction R with
  | nil => exact fun _ _ => rfl
  | cons p R ih =>
    intro s hw
    rw [List.foldl_cons, ih _ (refresh_wellOwned owns e hw p), refresh_apply owns e hw]
    by_cases h1 : owner k ∈ R <;> by_cases h2 : owner k = p <;> simp [h1, h2]

/-- the fold of a clean build, started from any store -/
theorem buildFold_apply (e : Env Path Content) (k : Key) (L : List Path) : ∀ (s0 : Store Path Key Page),
    L.foldl (fun s p => if (e p).isSome then putAll s p (P.parse e p) else s) s0 k =
      if owner k ∈ L ∧ (e (owner k)).isSome = true then
        (match lookupLast k (P.parse e (owner k)) with | some pg => some (pg, owner k) | none => s0 k)
      else s0 k := by
  induction L with
  | nil => exact fun _ => (if_neg (nomatch ·.1)).symm
  | cons p L ih =>
    intro s0
    rw [List.foldl_cons, ih]
    by_cases hk : owner k = p
    · subst hk
      by_cases hex : (e (owner k)).isSome = true
      · rw [if_pos hex, putAll_apply]
        cases lookupLast k (P.parse e (owner k)) <;> simp [hex]
      · simp [hex]
    · have hs : (if (e p).isSome then putAll s0 p (P.parse e p) else s0) k = s0 k := by
        split
        · rw [putAll_apply, lookupLast_other owns hk]
        · rfl
      simp only [hs, List.mem_cons, hk, false_or]

theorem storeOf_apply (e : Env Path Content) (k : Key) :
    storeOf P srcs e k = spec P owner srcs e k := by
  unfold storeOf
  rw [buildFold_apply owns e k srcs]
  unfold spec emptyStore
  split
  · cases lookupLast k (P.parse e (owner k)) <;> rfl
  · rfl

theorem Good.eq_storeOf {e : Env Path Content} {s : Store Path Key Page} (h : Good P owner srcs e s) :
    s = storeOf P srcs e :=
  funext fun k => (h k).trans (storeOf_apply owns e k).symm

end

theorem Op.env_other (op : Op Path Content) (e : Env Path Content) (f : Path)
    (h : op.touched ≠ some f) : op.env e f = e f := by
  cases op with
  | postprocess => rfl
  | _ => exact if_neg fun hh => h (congrArg some hh.symm)

theorem step_postprocess (P : Parser Path Key Page Content) (srcs : List Path) (post : Store Path Key Page → Result)
    (st : St Path Key Page Content Result) (R : List Path) :
    step P srcs post st (.postprocess, R) =
      if st.dirty then { st with cache := post st.store, dirty := false } else st := rfl

theorem step_env (P : Parser Path Key Page Content) (srcs : List Path) (post : Store Path Key Page → Result)
    (st : St Path Key Page Content Result) (x : Op Path Content × List Path) :
    (step P srcs post st x).env = x.1.env st.env := by
  obtain ⟨op, R⟩ := x
  cases op with
  | postprocess => rw [step_postprocess]; split <;> rfl
  | _ => rfl

/-- no source outside `R` can tell `e'` from `e`: it holds what it held, and so does every file its parse read.
This is what an operation with re-parse set `R` owes; `Covers` and `CoversCh` are two ways to meet it. Whatever obeys
the footprint law (the parse, the recorded edges) is then the same for such a source in `e` and `e'`. -/
def Unseen (P : Parser Path Key Page Content) (srcs : List Path) (e e' : Env Path Content) (R : List Path) : Prop :=
  ∀ s ∈ srcs, s ∉ R → e' s = e s ∧ ((e s).isSome = true → ∀ f ∈ P.reads e s, e f = e' f)

section
variable {P : Parser Path Key Page Content} {owner : Key → Path} {srcs : List Path} {e e' : Env Path Content}
  {op : Op Path Content} {R : List Path}

/-- the obligation on an operation that touches `q`, without the quantifier over the touched path -/
theorem Covers.of_touched {q : Path} (hq : op.touched = some q)
    (h : ∀ s ∈ srcs, (s = q ∨ ((e s).isSome = true ∧ q ∈ P.reads e s)) → s ∈ R) : Covers P srcs e op R :=
  fun s hs _ hq' => by cases hq.symm.trans hq'; exact h s hs

theorem CoversCh.of_touched {q : Path} (hq : op.touched = some q)
    (h : ∀ s ∈ srcs, (s = q ∨ ((e s).isSome = true ∧ q ∈ P.reads e s ∧ op.env e q ≠ e q)) → s ∈ R) :
    CoversCh P srcs e op R :=
  fun s hs _ hq' => by cases hq.symm.trans hq'; exact h s hs

/-- an operation changes the touched path only -/
theorem Unseen.of_op (h : ∀ s ∈ srcs, s ∉ R → ∀ q, op.touched = some q →
      s ≠ q ∧ ((e s).isSome = true → q ∈ P.reads e s → op.env e q = e q)) :
    Unseen P srcs e (op.env e) R := by
  intro s hs hR
  refine ⟨Op.env_other op e s fun ht => (h s hs hR s ht).1 rfl, fun hex f hf => ?_⟩
  by_cases ht : op.touched = some f
  · exact ((h s hs hR f ht).2 hex hf).symm
  · exact (Op.env_other op e f ht).symm

theorem Unseen.of_untouched (h : op.touched = none) : Unseen P srcs e (op.env e) R :=
  .of_op fun _ _ _ _ hq => nomatch h.symm.trans hq

theorem Covers.unseen (hc : Covers P srcs e op R) : Unseen P srcs e (op.env e) R :=
  .of_op fun s hs hR q hq =>
    ⟨fun h => hR (hc s hs q hq (.inl h)), fun hex hr => absurd (hc s hs q hq (.inr ⟨hex, hr⟩)) hR⟩

theorem CoversCh.unseen (hc : CoversCh P srcs e op R) : Unseen P srcs e (op.env e) R :=
  .of_op fun s hs hR q hq =>
    ⟨fun h => hR (hc s hs q hq (.inl h)),
      fun hex hr => Classical.byContradiction fun hch => hR (hc s hs q hq (.inr ⟨hex, hr, hch⟩))⟩

theorem Unseen.spec_eq (hu : Unseen P srcs e e' R) {k : Key} (hk : owner k ∉ R) :
    spec P owner srcs e' k = spec P owner srcs e k := by
  unfold spec
  by_cases hs : owner k ∈ srcs
  · obtain ⟨hself, hreads⟩ := hu _ hs hk
    rw [hself]
    by_cases hex : (e (owner k)).isSome = true
    · rw [P.footprint e e' (owner k) (hreads hex)]
    · rw [if_neg fun h => hex h.2, if_neg fun h => hex h.2]
  · rw [if_neg fun h => hs h.1, if_neg fun h => hs h.1]

theorem Good.refreshAll (owns : ∀ e p k pg, (k, pg) ∈ P.parse e p → owner k = p) {s : Store Path Key Page}
    (hg : Good P owner srcs e s) (hu : Unseen P srcs e e' R) :
    Good P owner srcs e' (R.foldl (refresh P srcs e') s) := by
  intro k
  rw [refreshAll_apply owns e' k R s hg.wellOwned]
  by_cases hk : owner k ∈ R
  · rw [if_pos hk]
  · rw [if_neg hk, hg k, hu.spec_eq hk]

end

section
variable (P : Parser Path Key Page Content) (owner : Key → Path) (srcs : List Path)
variable (owns : ∀ e p k pg, (k, pg) ∈ P.parse e p → owner k = p)
include owns

/-- invariant of the open project: the store is the clean-build store of the current environment, and a
clean (not dirty) cache holds the postprocessor result of the current store -/
def Inv (post : Store Path Key Page → Result) (st : St Path Key Page Content Result) : Prop :=
  Good P owner srcs st.env st.store ∧ (st.dirty = false → st.cache = post st.store)

theorem inv_init (post : Store Path Key Page → Result) (e : Env Path Content) :
    Inv P owner srcs post (St.init P srcs post e) :=
  ⟨storeOf_apply owns e, fun _ => rfl⟩

theorem inv_step_of_unseen (post : Store Path Key Page → Result) (st : St Path Key Page Content Result)
    (x : Op Path Content × List Path) (hi : Inv P owner srcs post st)
    (hu : Unseen P srcs st.env (x.1.env st.env) x.2) : Inv P owner srcs post (step P srcs post st x) := by
  obtain ⟨op, R⟩ := x
  have hmut : Inv P owner srcs post
      { env := op.env st.env, store := R.foldl (refresh P srcs (op.env st.env)) st.store,
        cache := st.cache, dirty := true } :=
    ⟨hi.1.refreshAll owns hu, fun h => nomatch h⟩
  cases op with
  | postprocess =>
    rw [step_postprocess]
    by_cases hd : st.dirty = true
    · rw [if_pos hd]; exact ⟨hi.1, fun _ => rfl⟩
    · rw [if_neg hd]; exact hi
  | _ => exact hmut

theorem inv_step (post : Store Path Key Page → Result) (st : St Path Key Page Content Result)
    (x : Op Path Content × List Path) (hi : Inv P owner srcs post st)
    (hc : Covers P srcs st.env x.1 x.2) : Inv P owner srcs post (step P srcs post st x) :=
  inv_step_of_unseen P owner srcs owns post st x hi hc.unseen

/-- `Inv`, and the graph holds for every existing source the edges recorded at a parse in the CURRENT environment:
the invariant of the models that keep a dependency graph (layers 2 and 3; `E` is the type of an edge) -/
def CodeInv {E : Type} (recorded : Env Path Content → Path → List E) (post : Store Path Key Page → Result)
    (st : St Path Key Page Content Result) (g : Path → List E) : Prop :=
  Inv P owner srcs post st ∧ ∀ s ∈ srcs, (st.env s).isSome = true → g s = recorded st.env s

end

section
variable {P : Parser Path Key Page Content} {owner : Key → Path} {srcs : List Path}
variable (owns : ∀ e p k pg, (k, pg) ∈ P.parse e p → owner k = p)
include owns

/-- the invariant along a history; the environment is carried as a variable, so that the induction needs no rewriting -/
theorem inv_run (post : Store Path Key Page → Result) (xs : List (Op Path Content × List Path)) :
    ∀ (e : Env Path Content) (st : St Path Key Page Content Result),
      st.env = e → Inv P owner srcs post st → CoversAll P srcs e xs →
      (run P srcs post st xs).env = envAfter e (xs.map (·.1)) ∧ Inv P owner srcs post (run P srcs post st xs) := by
  induction xs with
  | nil => exact fun _ _ he hi _ => ⟨he, hi⟩
  | cons x xs ih =>
    rintro _ st rfl hi hc
    exact ih _ _ (step_env P srcs post st x) (inv_step P owner srcs owns post st x hi hc.1) hc.2

/-- what the invariant is for: the store is the clean build's, and so is what the next `postprocess()` hands out -/
theorem Inv.converged {post : Store Path Key Page → Result} {st : St Path Key Page Content Result}
    (hi : Inv P owner srcs post st) {e : Env Path Content} (he : st.env = e) :
    st.env = e ∧ st.store = storeOf P srcs e ∧ deliver post st = post (storeOf P srcs e) := by
  subst he
  have hs := hi.1.eq_storeOf owns
  refine ⟨rfl, hs, ?_⟩
  unfold deliver
  split
  · rw [hs]
  · next hd => rw [hi.2 (Bool.eq_false_iff.2 hd), hs]

variable {E : Type} {recorded : Env Path Content → Path → List E}

theorem codeInv_init (recorded : Env Path Content → Path → List E) (post : Store Path Key Page → Result)
    (e : Env Path Content) :
    CodeInv P owner srcs recorded post (St.init P srcs post e)
      (fun s => if s ∈ srcs ∧ (e s).isSome then recorded e s else []) :=
  ⟨inv_init P owner srcs owns post e, fun _ hs hex => if_pos ⟨hs, hex⟩⟩

/-- one step of `codeStep` / `codeStep3`: the project re-parses `R`, the graph `g'` is `regraph` / `regraph3` of `g` -/
theorem CodeInv.step (hfp : ∀ e e' s, (∀ f ∈ P.reads e s, e f = e' f) → recorded e s = recorded e' s)
    {post : Store Path Key Page → Result} {st : St Path Key Page Content Result} {g g' : Path → List E}
    (hi : CodeInv P owner srcs recorded post st g) {op : Op Path Content} {R : List Path}
    (hu : Unseen P srcs st.env (op.env st.env) R)
    (hg' : ∀ s, g' s = if s ∈ R then (if s ∈ srcs ∧ (op.env st.env s).isSome then recorded (op.env st.env) s else [])
      else g s) :
    (step P srcs post st (op, R)).env = op.env st.env ∧
      CodeInv P owner srcs recorded post (step P srcs post st (op, R)) g' := by
  have he := step_env P srcs post st (op, R)
  refine ⟨he, inv_step_of_unseen P owner srcs owns post st (op, R) hi.1 hu, fun s hs hex => ?_⟩
  rw [he] at hex ⊢
  rw [hg' s]
  by_cases hR : s ∈ R
  · rw [if_pos hR, if_pos ⟨hs, hex⟩]
  · obtain ⟨hself, hreads⟩ := hu s hs hR
    rw [hself] at hex
    rw [if_neg hR, hi.2 s hs hex, hfp _ _ s (hreads hex)]

/-- the induction layers 2 and 3 share: `σ` is `CodeSt` / `CodeSt3`, `stepF` and `runF` are `codeStep` and `codeRun`, or
`codeStep3` and `codeRun3` (the two equations hold by `rfl`) -/
theorem CodeInv.run {σ : Type} {post : Store Path Key Page → Result} (toSt : σ → St Path Key Page Content Result)
    (graph : σ → Path → List E) (stepF : σ → Op Path Content → σ) (runF : σ → List (Op Path Content) → σ)
    (hnil : ∀ st, runF st [] = st) (hcons : ∀ st op ops, runF st (op :: ops) = runF (stepF st op) ops)
    (hstep : ∀ st op, CodeInv P owner srcs recorded post (toSt st) (graph st) →
      (toSt (stepF st op)).env = op.env (toSt st).env ∧
        CodeInv P owner srcs recorded post (toSt (stepF st op)) (graph (stepF st op)))
    (ops : List (Op Path Content)) : ∀ (e : Env Path Content) (st : σ),
      (toSt st).env = e → CodeInv P owner srcs recorded post (toSt st) (graph st) →
      (toSt (runF st ops)).env = envAfter e ops ∧ (toSt (runF st ops)).store = storeOf P srcs (envAfter e ops) ∧
        deliver post (toSt (runF st ops)) = post (storeOf P srcs (envAfter e ops)) := by
  induction ops with
  | nil => intro _ st he hi; rw [hnil]; exact hi.1.converged owns he
  | cons op ops ih =>
    rintro _ st rfl hi
    rw [hcons]
    exact ih _ _ (hstep st op hi).1 (hstep st op hi).2

/-! ### Layer 4 (sources sharing a key are generated again) changes nothing where every key has one owner -/

omit owns in
theorem mem_droppedKeys {keys : List Key} {s : Store Path Key Page} {p : Path} {out : List (Key × Page)} {k : Key}
    (h : k ∈ droppedKeys keys s p out) : ∃ pg, s k = some (pg, p) := by
  have hm := (List.mem_filter.1 h).2
  cases hs : s k with
  | none => rw [hs] at hm; cases hm
  | some v =>
    rw [hs] at hm
    exact ⟨v.1, congrArg (fun q => some (v.1, q)) (of_decide_eq_true (Bool.and_eq_true_iff.1 hm).1)⟩

/-- a source other than `p` that yielded a dropped key would own it as well as `p` does -/
theorem otherGenerators_nil (keys : List Key) (e : Env Path Content) {s : Store Path Key Page}
    (hw : WellOwned owner s) (p : Path) (out : List (Key × Page)) :
    otherGenerators P srcs e p (droppedKeys keys s p out) = [] := by
  refine List.filter_eq_nil_iff.2 fun q _ hq => ?_
  simp only [Bool.and_eq_true, decide_eq_true_eq, List.any_eq_true] at hq
  obtain ⟨⟨hne, _⟩, kp, hkp, hd⟩ := hq
  obtain ⟨pg, hs⟩ := mem_droppedKeys hd
  exact hne ((owns e q kp.1 kp.2 hkp).symm.trans (hw _ _ _ hs).symm)

theorem refreshShared_eq_refresh (keys : List Key) (e : Env Path Content) {s : Store Path Key Page}
    (hw : WellOwned owner s) (p : Path) :
    refreshShared P srcs keys e s p = refresh P srcs e s p := by
  unfold refreshShared
  simp only
  rw [otherGenerators_nil owns keys e hw]
  rfl

theorem foldl_refreshShared (keys : List Key) (e : Env Path Content) (R : List Path) :
    ∀ (s : Store Path Key Page), WellOwned owner s →
      R.foldl (refreshShared P srcs keys e) s = R.foldl (refresh P srcs e) s := by
  induction R with
  | nil => exact fun _ _ => rfl
  | cons p R ih =>
    intro s hw
    rw [List.foldl_cons, List.foldl_cons, refreshShared_eq_refresh owns keys e hw]
    exact ih _ (refresh_wellOwned owns e hw p)

theorem stepShared_eq_step (keys : List Key) (post : Store Path Key Page → Result)
    (st : St Path Key Page Content Result) (x : Op Path Content × List Path) (hw : WellOwned owner st.store) :
    stepShared P srcs keys post st x = step P srcs post st x := by
  obtain ⟨op, R⟩ := x
  cases op with
  | postprocess => rfl
  | _ => exact congrArg (St.mk _ · _ _) (foldl_refreshShared owns keys _ R st.store hw)

theorem runShared_eq_run (keys : List Key) (post : Store Path Key Page → Result)
    (xs : List (Op Path Content × List Path)) :
    ∀ (st : St Path Key Page Content Result), Inv P owner srcs post st → CoversAll P srcs st.env xs →
      runShared P srcs keys post st xs = run P srcs post st xs := by
  induction xs with
  | nil => exact fun _ _ _ => rfl
  | cons x xs ih =>
    intro st hi hc
    show runShared P srcs keys post (stepShared P srcs keys post st x) xs = run P srcs post (step P srcs post st x) xs
    rw [stepShared_eq_step owns keys post st x hi.1.wellOwned]
    exact ih _ (inv_step P owner srcs owns post st x hi hc.1) (step_env P srcs post st x ▸ hc.2)

end
end SnootyVerif.Project
