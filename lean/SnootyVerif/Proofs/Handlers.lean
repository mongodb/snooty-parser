import SnootyVerif.Model.Handlers
namespace SnootyVerif.Handlers

theorem scanLoop_eq (pattern : List String) : ∀ (stack : List String) (sp : Nat), sp < pattern.length →
    scanLoop pattern sp stack = .ok ((pattern.drop sp).isSublist stack)
  | [], sp, h => by rw [List.drop_eq_getElem_cons h]; rfl
  | item :: rest, sp, h => by
    have hd := List.drop_eq_getElem_cons h
    rw [scanLoop, List.getElem?_eq_getElem h, hd, List.isSublist, ← hd]
    by_cases hi : item = pattern[sp]
    · by_cases hend : sp + 1 ≥ pattern.length
      · simp [hi, hend, List.drop_eq_nil_of_le hend, List.isSublist]
      · simp [hi, hend, scanLoop_eq pattern rest (sp + 1) (by omega)]
    · simp [hi, Ne.symm hi, Nat.not_le.mpr h, scanLoop_eq pattern rest sp h]

theorem scanForPattern_eq {pattern : List String} (h : pattern ≠ []) (stack : List String) :
    scanForPattern pattern stack = .ok (pattern.isSublist stack) := by
  cases stack with
  | nil => cases pattern with
    | nil => exact absurd rfl h
    | cons _ _ => rfl
  | cons a t => simpa [scanForPattern] using scanLoop_eq pattern (a :: t) 0 (List.length_pos_iff.mpr h)

end SnootyVerif.Handlers
