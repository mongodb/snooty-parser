import SnootyVerif.Model.StateMachine
/-! Termination of the `run_sm` loop under the Progress contract: the potential `weight` drops on every iteration. -/
namespace SnootyVerif.StateMachine

theorem bonus {σ : Type} (look : σ → Bool) (s : σ) :
    2 ≤ (if look s then 5 else 2) ∧ (if look s then 5 else 2) ≤ 5 := by
  split <;> omega

theorem step_decreases {σ τ : Type} {m : Machine σ τ} {look : σ → Bool} (hP : Progress m look)
    (c c' : Cfg σ τ) (h : step m c = some c') : weight m look c' < weight m look c := by
  obtain ⟨next, state, forced⟩ := c
  simp only [step] at h
  split at h
  · cases h
  · have hlt : next < m.n := by omega
    split at h <;> cases h
    · next off s' hck =>
      have h1 := hP.adv_mono _ _ _ _ _ hlt hck
      cases forced with
      | none =>
        -- at least one line is consumed (-4); the state's share rises by 3 at most
        have := bonus look s'
        have := bonus look state
        simp only [weight]
        omega
      | some t =>
        simp only [weight, hP.adv_forced _ _ _ _ _ hlt hck, Bool.false_eq_true, if_false]
        omega
    · next off t hck =>
      cases forced with
      | none =>
        cases hP.trans_same _ _ _ _ hlt hck
        have := bonus look state
        simp only [weight]
        omega
      | some t' => exact absurd hck ((hP.forced_settles _ _ _ hlt).1 _ _)
    · next off s' t hck =>
      cases forced with
      | none =>
        -- at most one line is given back (+4); the look-ahead state's 5 becomes the 0 of a forced configuration
        obtain ⟨hl, _, ht, h1, h2⟩ := hP.state_corr _ _ _ _ _ hlt hck
        cases t with
        | none => cases ht
        | some t =>
          simp only [weight, hl, if_true]
          omega
      | some t' => exact absurd hck ((hP.forced_settles _ _ _ hlt).2 _ _ _)

theorem run_finishes {σ τ : Type} {m : Machine σ τ} {look : σ → Bool} (hP : Progress m look) :
    ∀ (fuel : Nat) (c : Cfg σ τ), weight m look c < fuel →
      (run m fuel c).2 = true ∧ (run m fuel c).1 ≤ weight m look c + 1 := by
  intro fuel
  induction fuel with
  | zero => intro c h; omega
  | succ k ih =>
    intro c h
    unfold run
    cases hs : step m c with
    | none => simp
    | some c' =>
      have hd := step_decreases hP c c' hs
      have := ih c' (by omega)
      simp only
      constructor
      · exact this.1
      · omega

end SnootyVerif.StateMachine
