import SnootyVerif.Proofs.Man

/-!
Totality of the man page renderer (`builders.man.render`, C19), under the one structural precondition of the handler:
a list item only below a list (`Ast.scoped` / `ManNode.scoped`; `assert self.list_stack` in `handle_start`; the parser
only creates `ListNodeItem`s as children of a `ListNode`). Walking a scoped subtree from ANY handler state returns
(`events_total`), because `handle_end` finds on the stacks what the `handle_start` of the same node pushed
(`bracket_total`, with `events_balanced`). `SnootyToTroffTree` has no raising path: it returns for every AST, makes only
TEXT / PREFORMATTED leaves, and keeps the scoping (`toMan_scoped`).
-/
namespace SnootyVerif.Man

theorem scopedL_eq_all (b : Bool) (xs : List ManNode) : scopedL b xs = xs.all (·.scoped b) := by
  induction xs with
  | nil => rfl
  | cons x xs ih => simp [scopedL, ih]

theorem scopedL_append (b : Bool) (xs ys : List ManNode) : scopedL b (xs ++ ys) = (scopedL b xs && scopedL b ys) := by
  simp only [scopedL_eq_all, List.all_append]

theorem scopedL_dropLast (b : Bool) (xs : List ManNode) (h : scopedL b xs = true) : scopedL b xs.dropLast = true := by
  rw [scopedL_eq_all, List.all_eq_true] at *
  exact fun x hx => h x (List.dropLast_subset xs hx)

/-- between the start and the stop of a node whose `handle_start` may run, events that return and leave both stacks as
they found them make the whole bracket return: `handle_end` finds what `handle_start` pushed -/
theorem bracket_total {up : Char → Str} {h : Hd} {es : List Ev} {st : St} (hh : h = .listItem → st.lstack ≠ [])
    (hbal : ∀ s s', run up s es = .ok s' → s'.stacks = s.stacks)
    (hes : ∀ s, s.stacks = pushS h st.stacks → ∃ s', run up s es = .ok s') :
    ∃ st', run up st (.start h :: (es ++ [.stop h])) = .ok st' := by
  cases h1 : st.handleStart up h with
  | error e => have := handleStart_spec up st h; rw [h1] at this; exact absurd this.2 (hh this.1)
  | ok s1 =>
    obtain ⟨s2, h2⟩ := hes s1 (handleStart_ok h1).2
    cases h3 : s2.handleEnd h with
    | error e =>
      have := handleEnd_spec s2 h; rw [h3] at this
      exact absurd ((hbal _ _ h2).trans (handleStart_ok h1).2) (this _)
    | ok s3 =>
      refine ⟨s3, ?_⟩
      simp only [run_cons_ok, run_append_ok, run_nil_ok]
      exact ⟨s1, h1, s2, h2, s3, h3, rfl⟩

mutual
/-- walking a scoped subtree from any handler state whose list stack is non-empty when the subtree sits in a list
returns -/
theorem events_total (up : Char → Str) : ∀ (t : ManNode) (b : Bool) (st : St), t.scoped b = true →
    (b = true → st.lstack ≠ []) → ∃ st', run up st t.events = .ok st'
  | .node h cs, b, st, hs, hb => by
    simp only [ManNode.scoped, Bool.and_eq_true, Bool.or_eq_true, bne_iff_ne, ne_eq] at hs
    obtain ⟨hitem, hcs⟩ := hs
    refine bracket_total (fun hh => hitem.elim (absurd hh) hb) (eventsL_balanced up cs) fun s hl => ?_
    -- the children sit in a list if `h` is a list, whose start has pushed, or if the node does
    refine eventsL_total up cs (isListHd h || b) s hcs fun hh => ?_
    rw [stacks_snd hl]
    cases h with
    | list o => nofun
    | _ => exact hb hh
  | .leaf h s, b, st, hs, _ => by
    simp only [ManNode.scoped, Bool.or_eq_true, beq_iff_eq] at hs
    simp only [ManNode.events, if_pos hs]
    exact bracket_total (es := [.text s]) (by rintro rfl; simp at hs) (fun _ _ h2 => by cases h2; rfl)
      fun _ _ => ⟨_, rfl⟩
theorem eventsL_total (up : Char → Str) : ∀ (ts : List ManNode) (b : Bool) (st : St), scopedL b ts = true →
    (b = true → st.lstack ≠ []) → ∃ st', run up st (eventsL ts) = .ok st'
  | [], _, st, _, _ => ⟨st, rfl⟩
  | t :: ts, b, st, hs, hb => by
    simp only [scopedL, Bool.and_eq_true] at hs
    obtain ⟨s1, h1⟩ := events_total up t b st hs.1 hb
    obtain ⟨s2, h2⟩ := eventsL_total up ts b s1 hs.2
      (by rw [stacks_snd (events_balanced up t _ _ h1)]; exact hb)
    exact ⟨s2, run_append_ok.2 ⟨s1, h1, h2⟩⟩
end

theorem eventsL_ok (up : Char → Str) : ∀ (ts : List ManNode) (b : Bool) (st : St), scopedL b ts = true →
    (b = true → st.lstack ≠ []) →
    ∃ st', run up st (eventsL ts) = .ok st' ∧ st'.lstack = st.lstack ∧ st'.fstack = st.fstack := by
  intro ts b st hs hb
  obtain ⟨st', h⟩ := eventsL_total up ts b st hs hb
  have hb := eventsL_balanced up ts _ _ h
  exact ⟨st', h, stacks_snd hb, stacks_fst hb⟩

theorem scopedL_targetNames (b : Bool) (cs : List Ast) : scopedL b (targetNames cs) = true := by
  induction cs with
  | nil => simp [targetNames, scopedL]
  | cons i r ih =>
    simp only [targetNames]
    split
    · simp [scopedL, ManNode.scoped, ih]
    · exact ih

/-- the handlers that wrap the converted children in one node -/
theorem wrap_scoped {cs : List Ast} {b b' : Bool} {hd : Hd} (ih : ∃ k, toManL cs = .ok k ∧ scopedL b' k = true)
    (hhd : (hd != .listItem || b) = true) (hb' : b' = (isListHd hd || b)) :
    ∃ k', (match toManL cs with | .error e => .error e | .ok k => .ok [.node hd k] : Except PyErr _) = .ok k' ∧
      scopedL b k' = true := by
  obtain ⟨k, hk, sk⟩ := ih
  exact ⟨[.node hd k], by rw [hk], by simp [scopedL, ManNode.scoped, hhd, ← hb', sk]⟩

mutual
theorem toMan_scoped : ∀ (a : Ast) (b : Bool), a.scoped b = true → ∃ k, a.toMan = .ok k ∧ scopedL b k = true
  | .text v, b, _ | .code v, b, _ => ⟨_, rfl, rfl⟩
  | .heading _, _, _ | .drop _, _, _ | .targetId _, _, _ | .dirArg _, _, _ => ⟨[], rfl, rfl⟩
  | .pass cs, b, h => toManL_scoped cs b h
  | .sect cs, b, h => by
    have ih := toManL_scoped cs b h
    simp only [Ast.toMan]
    split
    · exact ih
    · exact wrap_scoped ih rfl rfl
  | .paragraph cs, b, h | .reference _ cs, b, h | .strong cs, b, h | .literal cs, b, h | .emphasis cs, b, h =>
    wrap_scoped (toManL_scoped cs b h) rfl rfl
  | .list o cs, b, h => wrap_scoped (toManL_scoped cs true h) rfl rfl
  | .listItem cs, b, h => by
    simp only [Ast.scoped, Bool.and_eq_true] at h
    obtain ⟨rfl, h⟩ := h
    exact wrap_scoped (toManL_scoped cs true h) rfl rfl
  | .defItem term cs, b, h => by
    simp only [Ast.scoped, Bool.and_eq_true] at h
    obtain ⟨t, ht, st⟩ := toManL_scoped term b h.1
    obtain ⟨k, hk, sk⟩ := toManL_scoped cs b h.2
    refine ⟨_, by simp only [Ast.toMan, ht, hk]; rfl, ?_⟩
    simp [scopedL, ManNode.scoped, isListHd, st, sk]
  | .target cs, b, h => by
    simp only [Ast.scoped] at h
    obtain ⟨k, hk, sk⟩ := toManL_scoped cs b h
    simp only [Ast.toMan, hk]
    split
    · exact ⟨_, rfl, by simp [scopedL]⟩
    · refine ⟨_, rfl, ?_⟩
      have hn := scopedL_targetNames b cs
      simp only [scopedL, ManNode.scoped, scopedL_append, isListHd, Bool.false_or, Bool.and_true, Bool.and_eq_true,
        Bool.or_eq_true, bne_iff_ne, ne_eq]
      refine ⟨Or.inl (by decide), ?_, Or.inl (by decide), sk⟩
      split
      · exact hn
      · split
        · exact scopedL_dropLast _ _ hn
        · exact hn
theorem toManL_scoped : ∀ (as : List Ast) (b : Bool), scopedAL b as = true →
    ∃ k, toManL as = .ok k ∧ scopedL b k = true
  | [], _, _ => ⟨[], rfl, rfl⟩
  | a :: r, b, h => by
    simp only [scopedAL, Bool.and_eq_true] at h
    obtain ⟨x, hx, sx⟩ := toMan_scoped a b h.1
    obtain ⟨y, hy, sy⟩ := toManL_scoped r b h.2
    exact ⟨x ++ y, by simp only [toManL, hx, hy], by rw [scopedL_append, sx, sy]; rfl⟩
end

end SnootyVerif.Man
