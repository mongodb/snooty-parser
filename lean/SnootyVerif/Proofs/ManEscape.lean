import SnootyVerif.Model.ManScoped

/-!
`troff_escape` (C19). Its five `replace` passes and two guards are one pass from left to right: every character is replaced
by `esc1` of it, and `guardGo` writes `\&` before a dot at a line start (`troffEscape_eq`). `guardGo` goes through an escaped
character as through the character itself (`guardGo_esc1`), so what the escape does to line starts (`scan`), which
characters it can introduce, and what groff reads back (`unesc`) are each a fact about one character, proved along the
table of `esc1` (`esc1_cases`).
-/
namespace SnootyVerif.Man

/-- troff's control characters -/
def isCtl (c : Char) : Bool := c == '.' || c == '\''

/-- `scan bol s`: no control character of `s` sits at a line start (`bol` = `s` itself starts a line). -/
def scan : Bool → Str → Bool
  | _, [] => true
  | bol, c :: r => !(bol && isCtl c) && scan (c == '\n') r

/-- are we at a line start after writing `s` (having been in state `b` before)? -/
def endsBol (b : Bool) (s : Str) : Bool :=
  match s.getLast? with
  | none => b
  | some c => c == '\n'

def esc1 (c : Char) : Str :=
  if c = '\\' then ['\\', 'e']
  else if c = '-' then ['\\', '-']
  else if c = '\'' then ['\\', '(', 'a', 'q']
  else if c = '´' then ['\\', '\'']
  else if c = '`' then ['\\', '(', 'g', 'a']
  else [c]

/-- `replace("\n.", "\n\\&.")` followed by the `startswith(".")` guard, as one left-to-right pass -/
def guardGo : Bool → Str → Str
  | _, [] => []
  | b, c :: r => (if b && c == '.' then ['\\', '&'] else []) ++ c :: guardGo (c == '\n') r

theorem replaceChar_eq (a : Char) (out s : Str) :
    replaceChar a out s = s.flatMap fun c => if c = a then out else [c] := by
  induction s with
  | nil => rfl
  | cons c r ih => simp only [replaceChar, List.flatMap_cons, ← ih]; split <;> rfl

theorem escapePairs_append (x y : Str) : escapePairs (x ++ y) = escapePairs x ++ escapePairs y := by
  simp only [escapePairs, replaceChar_eq, List.flatMap_append]

/-- Case analysis along the table of `esc1`: the five characters it rewrites (there `esc1 c` is a closed term and
evaluates), and any other. -/
theorem esc1_cases {motive : Char → Prop} (bs : motive '\\') (minus : motive '-') (aq : motive '\'')
    (acute : motive '´') (grave : motive '`')
    (other : ∀ c, c ≠ '\\' → c ≠ '-' → c ≠ '\'' → c ≠ '´' → c ≠ '`' → esc1 c = [c] → motive c) (c : Char) :
    motive c := by
  by_cases h1 : c = '\\'; · exact h1 ▸ bs
  by_cases h2 : c = '-'; · exact h2 ▸ minus
  by_cases h3 : c = '\''; · exact h3 ▸ aq
  by_cases h4 : c = '´'; · exact h4 ▸ acute
  by_cases h5 : c = '`'; · exact h5 ▸ grave
  exact other c h1 h2 h3 h4 h5 (by rw [esc1, if_neg h1, if_neg h2, if_neg h3, if_neg h4, if_neg h5])

/-- the five passes of `troff_escape` are one pass, character by character: each is a `flatMap`, and no pass rewrites what
an earlier one wrote -/
theorem escChain_eq (s : Str) : escapePairs (replaceChar '\\' ['\\', 'e'] s) = s.flatMap esc1 := by
  simp only [escapePairs, replaceChar_eq, List.flatMap_assoc]
  congr 1; funext c
  cases c using esc1_cases with
  | other c h1 h2 h3 h4 h5 he => simp [he, h1, h2, h3, h4, h5]
  | _ => decide

theorem replaceNlDot_eq (s : Str) : replaceNlDot s = guardGo false s := by
  fun_induction replaceNlDot s with
  | case1 => rfl
  | case2 c => simp [guardGo]
  | case3 c d r h ih =>
    obtain ⟨rfl, rfl⟩ := h
    simp [guardGo, ih]
  | case4 c d r h ih =>
    rw [ih]
    by_cases hc : c = '\n'
    · subst hc
      have hd : d ≠ '.' := fun hd => h ⟨rfl, hd⟩
      simp [guardGo, hd]
    · simp [guardGo, hc]

theorem guardHead_guardGo (v : Str) : guardHead (guardGo false v) = guardGo true v := by
  cases v with
  | nil => rfl
  | cons c r =>
    by_cases hc : c = '.'
    · subst hc; simp [guardHead, guardGo]
    · simp [guardHead, guardGo, hc]

theorem troffEscape_eq (s : Str) : troffEscape s = guardGo true (s.flatMap esc1) := by
  simp only [troffEscape, escChain_eq, replaceNlDot_eq, guardHead_guardGo]

/-- the guard pass goes through an escaped character as through the character itself: what `esc1` writes holds
neither a newline nor a leading dot of its own -/
theorem guardGo_esc1 (c : Char) (b : Bool) (r : Str) : guardGo b (esc1 c ++ r) =
    (if b && c == '.' then ['\\', '&'] else []) ++ esc1 c ++ guardGo (c == '\n') r := by
  cases c using esc1_cases with
  | other c _ _ _ _ _ he => simp [he, guardGo]
  | _ => simp [esc1, guardGo]

theorem scan_mono (s : Str) (b : Bool) (h : scan true s = true) : scan b s = true := by
  cases s with
  | nil => rfl
  | cons c r =>
    simp only [scan, Bool.true_and, Bool.and_eq_true] at h ⊢
    cases b <;> simp [h.1, h.2]

theorem endsBol_append (b : Bool) (x y : Str) : endsBol b (x ++ y) = endsBol (endsBol b x) y := by
  simp only [endsBol, List.getLast?_append]
  cases y.getLast? <;> cases x.getLast? <;> simp

theorem scan_append (x y : Str) : ∀ b, scan b (x ++ y) = (scan b x && scan (endsBol b x) y) := by
  induction x with
  | nil => intro b; simp [scan, endsBol]
  | cons c r ih =>
    intro b
    have he : endsBol b (c :: r) = endsBol (c == '\n') r := by
      have := endsBol_append b [c] r
      simpa [endsBol] using this
    simp only [List.cons_append, scan, ih, he, Bool.and_assoc]

theorem esc1_line (c : Char) (b : Bool) :
    scan b ((if b && c == '.' then ['\\', '&'] else []) ++ esc1 c) = true ∧
    endsBol b ((if b && c == '.' then ['\\', '&'] else []) ++ esc1 c) = (c == '\n') := by
  cases c using esc1_cases with
  | other c _ _ h3 _ _ he =>
    rw [he]
    by_cases hd : c = '.'
    · subst hd; cases b <;> decide
    · cases b <;> simp [scan, endsBol, isCtl, hd, h3]
  | _ => cases b <;> decide

theorem scan_guardGo_esc1 (s : Str) (b : Bool) : scan b (guardGo b (s.flatMap esc1)) = true := by
  induction s generalizing b with
  | nil => rfl
  | cons c r ih =>
    rw [List.flatMap_cons, guardGo_esc1, scan_append, (esc1_line c b).1, (esc1_line c b).2, ih]; rfl

theorem scan_troffEscape (s : Str) (b : Bool) : scan b (troffEscape s) = true :=
  scan_mono _ b (troffEscape_eq s ▸ scan_guardGo_esc1 s true)

theorem mem_guardGo (t : Str) : ∀ b c, c ∈ guardGo b t → c ∈ t ∨ c = '\\' ∨ c = '&' := by
  induction t with
  | nil => intro b c h; simp [guardGo] at h
  | cons x r ih =>
    intro b c h
    simp only [guardGo, List.mem_append, List.mem_cons] at h
    rcases h with h | h | h
    · split at h
      · simp only [List.mem_cons, List.not_mem_nil, or_false] at h
        rcases h with h | h <;> simp [h]
      · simp at h
    · simp [h]
    · rcases ih _ _ h with h | h | h <;> simp [h]

theorem nl_not_mem_esc1 (x : Char) (hx : x ≠ '\n') : '\n' ∉ esc1 x := by
  cases x using esc1_cases with
  | other c _ _ _ _ _ he => simpa [he] using hx.symm
  | _ => decide

theorem mem_replaceChar (a c : Char) (rep v : Str) (h : c ∈ replaceChar a rep v) : c ∈ v ∨ c ∈ rep := by
  rw [replaceChar_eq, List.mem_flatMap] at h
  obtain ⟨x, hx, h⟩ := h
  split at h
  · exact .inr h
  · exact .inl (List.mem_singleton.1 h ▸ hx)

theorem not_mem_replaceChar (a : Char) (rep : Str) (ha : a ∉ rep) (v : Str) : a ∉ replaceChar a rep v := by
  rw [replaceChar_eq, List.mem_flatMap]
  rintro ⟨x, _, h⟩
  split at h
  · exact ha h
  · exact ‹¬x = a› (List.mem_singleton.1 h).symm

theorem nl_not_mem_troffEscapeArg (s : Str) : '\n' ∉ troffEscapeArg s := by
  intro h
  rcases mem_replaceChar _ _ _ _ h with h | h
  · rw [troffEscape_eq] at h
    rcases mem_guardGo _ _ _ h with h | h | h
    · obtain ⟨x, hx, hmem⟩ := List.mem_flatMap.1 h
      exact nl_not_mem_esc1 x (fun e => not_mem_replaceChar '\n' [' '] (by decide) s (e ▸ hx)) hmem
    · cases h
    · cases h
  · revert h; decide

theorem unesc_plain (c : Char) (r : Str) (h : c ≠ '\\') : unesc (c :: r) = (unesc r).map (c :: ·) := by
  rw [unesc.eq_def]; simp [h]
theorem unesc_e (r : Str) : unesc ('\\' :: 'e' :: r) = (unesc r).map ('\\' :: ·) := by rw [unesc]; rfl
theorem unesc_minus (r : Str) : unesc ('\\' :: '-' :: r) = (unesc r).map ('-' :: ·) := by rw [unesc]; rfl
theorem unesc_acute (r : Str) : unesc ('\\' :: '\'' :: r) = (unesc r).map ('´' :: ·) := by rw [unesc]; rfl
theorem unesc_amp (r : Str) : unesc ('\\' :: '&' :: r) = unesc r := by rw [unesc]; rfl
theorem unesc_aq (r : Str) : unesc ('\\' :: '(' :: 'a' :: 'q' :: r) = (unesc r).map ('\'' :: ·) := by rw [unesc]; rfl
theorem unesc_ga (r : Str) : unesc ('\\' :: '(' :: 'g' :: 'a' :: r) = (unesc r).map ('`' :: ·) := by rw [unesc]; rfl

theorem unesc_esc1 (c : Char) (r : Str) : unesc (esc1 c ++ r) = (unesc r).map (c :: ·) := by
  cases c using esc1_cases with
  | bs => exact unesc_e r
  | minus => exact unesc_minus r
  | aq => exact unesc_aq r
  | acute => exact unesc_acute r
  | grave => exact unesc_ga r
  | other c h1 _ _ _ _ he => rw [he]; exact unesc_plain c r h1

/-- reading the escapes back gives the text: nothing is lost, merged or altered by `troff_escape`, including the `\&`
guards written at line starts (`b` = "at a line start"); the escaped text consists of complete escape sequences, so
whatever follows it (`y`) is read independently -/
theorem unesc_guardGo_append (s : Str) : ∀ b y, unesc (guardGo b (s.flatMap esc1) ++ y) = (unesc y).map (s ++ ·) := by
  induction s with
  | nil => intro b y; simp [guardGo]
  | cons c r ih =>
    intro b y
    rw [List.flatMap_cons, guardGo_esc1]
    split <;> simp [unesc_amp, unesc_esc1, ih, Option.map_map, Function.comp_def]

theorem unesc_troffEscape_append (s y : Str) : unesc (troffEscape s ++ y) = (unesc y).map (s ++ ·) := by
  rw [troffEscape_eq]; exact unesc_guardGo_append s true y

theorem unesc_flatMap_troffEscape (ts : List Str) : unesc (ts.flatMap troffEscape) = some ts.flatten := by
  induction ts with
  | nil => simp [unesc]
  | cons t r ih => simp [List.flatMap_cons, unesc_troffEscape_append, ih]

end SnootyVerif.Man
