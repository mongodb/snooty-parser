import SnootyVerif.Model.Sections
/-! Lemmas for `Model/Sections.lean`.  The frame stack of the model only ever does one thing on a title in a known
style: close the sections deeper than the style's level and open one at that level (`titleEvent_known`).  Under the
invariant `Inv` every title step is that, or a first use of a style one level down, or a refusal (`step_title`); that the
root machine never halts, how the style list grows, and the round trip for rendered trees (`Rep`) are read off it. -/
namespace SnootyVerif.Sections

/-! ## styles assigned by depth -/

def stylesUpTo (σ : Nat → Style) (n : Nat) : List Style := (List.range n).map σ

def Injective (σ : Nat → Style) : Prop := ∀ i j, σ i = σ j → i = j

theorem stylesUpTo_length (σ : Nat → Style) (n : Nat) : (stylesUpTo σ n).length = n := by
  simp [stylesUpTo]

theorem stylesUpTo_succ (σ : Nat → Style) (n : Nat) : stylesUpTo σ (n + 1) = stylesUpTo σ n ++ [σ n] := by
  simp [stylesUpTo, List.range_succ]

/-- `title_styles.index` is core's `findIdx?` -/
theorem indexOf_eq_findIdx? (s : Style) : ∀ l, indexOf s l = l.findIdx? (· = s)
  | [] => rfl
  | x :: xs => by
    simp only [indexOf, List.findIdx?_cons, indexOf_eq_findIdx? s xs, decide_eq_true_eq]

theorem indexOf_lt (s : Style) : ∀ (l : List Style) (i : Nat), indexOf s l = some i → i < l.length := by
  intro l i h
  rw [indexOf_eq_findIdx?] at h
  exact (List.findIdx?_eq_some_iff_getElem.1 h).1

theorem indexOf_none_not_mem (s : Style) (l : List Style) (h : indexOf s l = none) : s ∉ l := by
  rw [indexOf_eq_findIdx?, List.findIdx?_eq_none_iff] at h
  exact fun hs => by simpa using h s hs

theorem indexOf_stylesUpTo (σ : Nat → Style) (hσ : Injective σ) (i n : Nat) :
    indexOf (σ i) (stylesUpTo σ n) = if i < n then some i else none := by
  rw [indexOf_eq_findIdx?]
  split
  · next h =>
    rw [List.findIdx?_eq_some_iff_getElem]
    refine ⟨by simpa [stylesUpTo] using h, by simp [stylesUpTo], fun j hj => ?_⟩
    simpa [stylesUpTo] using fun e => Nat.ne_of_lt hj (hσ _ _ e)
  · next h =>
    rw [List.findIdx?_eq_none_iff]
    intro x hx
    obtain ⟨j, hj, rfl⟩ : ∃ j, j < n ∧ σ j = x := by simpa [stylesUpTo] using hx
    simpa using fun e => h (hσ j i e ▸ hj)

/-! ## the five outcomes of `check_subsection` -/

theorem check_new_ok (m : Memo) (s : Style) (h : indexOf s m.styles = none) (hl : m.styles.length = m.level) :
    checkSubsection m s = .sub { m with styles := m.styles ++ [s] } := by
  simp [checkSubsection, h, hl]

theorem check_new_bad (m : Memo) (s : Style) (h : indexOf s m.styles = none) (hl : m.styles.length ≠ m.level) :
    checkSubsection m s = .inconsistent m := by
  simp [checkSubsection, h, hl]

theorem check_bubble (m : Memo) (s : Style) (i : Nat) (h : indexOf s m.styles = some i) (hl : i + 1 ≤ m.level) :
    checkSubsection m s = .bubble { m with level := i + 1 } := by
  simp [checkSubsection, h, hl]

theorem check_sub (m : Memo) (s : Style) (i : Nat) (h : indexOf s m.styles = some i) (hl : i = m.level) :
    checkSubsection m s = .sub m := by
  simp [checkSubsection, h, hl]

theorem check_skip (m : Memo) (s : Style) (i : Nat) (h : indexOf s m.styles = some i) (hl : m.level < i) :
    checkSubsection m s = .inconsistent m := by
  have h1 : ¬ i + 1 ≤ m.level := by omega
  have h2 : ¬ i = m.level := by omega
  simp [checkSubsection, h, h1, h2]

/-! ## frames -/

/-- each saved `mylevel` is the depth at which `new_subsection` was called: the number of frames below it -/
def GoodFrames : List Frame → Prop
  | [] => True
  | f :: fs => f.mylevel = fs.length ∧ GoodFrames fs

theorem GoodFrames.of_append : ∀ {inner outer : List Frame}, GoodFrames (inner ++ outer) → GoodFrames outer
  | [], _, h => h
  | _ :: inner, _, h => of_append (inner := inner) h.2

theorem close_append : ∀ (inner outer : List Frame) (cur : List Node),
    close cur (inner ++ outer) = close (close cur inner) outer
  | [], _, _ => rfl
  | _ :: inner, outer, _ => close_append inner outer _

theorem resume_pop (s : Style) (f : Frame) (fs : List Frame) (m : Memo) (cur : List Node)
    (h : m.level ≤ f.mylevel) :
    resume s (f :: fs) m cur = resume s fs m (f.kids ++ [Node.sec cur]) := by
  simp [resume, h]

theorem resume_redispatch (s : Style) (f : Frame) (fs : List Frame) (m : Memo) (cur : List Node)
    (h : ¬ m.level ≤ f.mylevel) :
    resume s (f :: fs) m cur =
      titleEvent s ⟨{ m with level := f.mylevel }, f.kids ++ [Node.sec cur], fs, false⟩ := by
  simp only [resume, h, if_false, titleEvent]

/-- a title that is not a subsection of the innermost open section acts the same whether or not that section has
been closed already -/
theorem titleEvent_pop (s : Style) (styles : List Style) (cur : List Node) (f : Frame) (fs : List Frame) (i : Nat)
    (hf : f.mylevel = fs.length) (hi : indexOf s styles = some i) (hle : i ≤ fs.length) :
    titleEvent s ⟨⟨styles, fs.length + 1⟩, cur, f :: fs, false⟩ =
      titleEvent s ⟨⟨styles, fs.length⟩, f.kids ++ [Node.sec cur], fs, false⟩ := by
  conv => lhs; simp only [titleEvent, check_bubble ⟨styles, fs.length + 1⟩ s i hi (Nat.succ_le_succ hle)]
  by_cases h : i + 1 ≤ fs.length
  · rw [resume_pop _ _ _ _ _ (hf ▸ h)]
    simp only [titleEvent, check_bubble ⟨styles, fs.length⟩ s i hi h]
  · rw [resume_redispatch _ _ _ _ _ (hf ▸ h), hf]

/-- a title in a known style, not deeper than one below the current level: the sections above its level are
closed and a new one is opened -/
theorem titleEvent_known (s : Style) (styles : List Style) (outer : List Frame)
    (hi : indexOf s styles = some outer.length) : ∀ (inner : List Frame) (cur : List Node),
      GoodFrames (inner ++ outer) →
      titleEvent s ⟨⟨styles, (inner ++ outer).length⟩, cur, inner ++ outer, false⟩ =
        ⟨⟨styles, outer.length + 1⟩, [], ⟨outer.length, close cur inner⟩ :: outer, false⟩
  | [], cur, _ => by
    show titleEvent s ⟨⟨styles, outer.length⟩, cur, outer, false⟩ = _
    simp only [titleEvent, check_sub ⟨styles, outer.length⟩ s _ hi rfl]
    rfl
  | f :: inner, cur, hg => by
    have hf : f.mylevel = (inner ++ outer).length := hg.1
    rw [List.cons_append, List.length_cons, titleEvent_pop s styles cur f (inner ++ outer) _ hf hi (by simp)]
    exact titleEvent_known s styles outer hi inner _ hg.2

theorem run_cons (e : Ev) (evs : List Ev) (st : St) : run (e :: evs) st = run evs (step st e) := rfl

theorem run_append (a b : List Ev) (st : St) : run (a ++ b) st = run b (run a st) := by
  simp [run, List.foldl_append]

theorem run_others (m : Memo) (frames : List Frame) : ∀ (k : Nat) (cur : List Node),
    run (List.replicate k Ev.other) ⟨m, cur, frames, false⟩ = ⟨m, cur ++ List.replicate k Node.other, frames, false⟩
  | 0, cur => by simp [run]
  | k + 1, cur => by
    rw [List.replicate_succ, run_cons]
    simp only [step, Bool.false_eq_true, if_false]
    rw [run_others m frames k]
    simp [List.replicate_succ]

/-! ## the invariant under which a title is one of three things -/

def Inv (st : St) : Prop := st.halted = false ∧ st.memo.level = st.frames.length ∧ GoodFrames st.frames

theorem inv_init : Inv init := ⟨rfl, rfl, trivial⟩

/-- Under the invariant a title opens a section at the level of its (known) style after closing what is deeper, or
opens one a level down with a style seen for the first time, or is refused with a message: the root machine is
never reached by an `EOFError`. -/
theorem step_title (st : St) (h : Inv st) (s : Style) :
    (∃ inner outer, st.frames = inner ++ outer ∧ step st (Ev.title s) =
        ⟨⟨st.memo.styles, outer.length + 1⟩, [], ⟨outer.length, close st.cur inner⟩ :: outer, false⟩) ∨
    (s ∉ st.memo.styles ∧ step st (Ev.title s) =
        ⟨⟨st.memo.styles ++ [s], st.memo.level + 1⟩, [], ⟨st.memo.level, st.cur⟩ :: st.frames, false⟩) ∨
    step st (Ev.title s) = { st with cur := st.cur ++ [Node.inconsistent] } := by
  obtain ⟨⟨styles, level⟩, cur, frames, halted⟩ := st
  obtain ⟨rfl, rfl, hg⟩ : halted = false ∧ level = frames.length ∧ GoodFrames frames := h
  simp only [step, Bool.false_eq_true, if_false, titleEvent]
  cases hidx : indexOf s styles with
  | none =>
    by_cases hlen : styles.length = frames.length
    · exact .inr (.inl ⟨indexOf_none_not_mem s _ hidx, by rw [check_new_ok _ _ hidx hlen]⟩)
    · exact .inr (.inr (by rw [check_new_bad _ _ hidx hlen]))
  | some i =>
    by_cases hle : i ≤ frames.length
    · obtain ⟨inner, outer, rfl, rfl⟩ : ∃ inner outer, frames = inner ++ outer ∧ outer.length = i :=
        ⟨_, _, (List.take_append_drop (frames.length - i) frames).symm, by rw [List.length_drop]; omega⟩
      exact .inl ⟨inner, outer, rfl, titleEvent_known s styles outer hidx inner cur hg⟩
    · exact .inr (.inr (by rw [check_skip _ _ i hidx (by simp only; omega)]))

theorem step_inv (st : St) (e : Ev) (h : Inv st) : Inv (step st e) := by
  cases e with
  | other => simp only [step, h.1, Bool.false_eq_true, if_false]; exact ⟨rfl, h.2⟩
  | title s =>
    rcases step_title st h s with ⟨inner, outer, hf, he⟩ | ⟨_, he⟩ | he <;> rw [he]
    · exact ⟨rfl, rfl, rfl, (hf ▸ h.2.2).of_append⟩
    · exact ⟨rfl, congrArg (· + 1) h.2.1, h.2.1, h.2.2⟩
    · exact h

theorem run_inv : ∀ (evs : List Ev) (st : St), Inv st → Inv (run evs st)
  | [], _, h => h
  | e :: es, st, h => run_inv es _ (step_inv st e h)

/-! ## styles only grow, by appending styles not yet in the list -/

theorem step_styles (st : St) (e : Ev) (h : Inv st) (hn : st.memo.styles.Nodup) :
    (step st e).memo.styles.Nodup ∧ ∀ s ∈ (step st e).memo.styles, s ∈ st.memo.styles ∨ e = Ev.title s := by
  have same : ∀ st' : St, st'.memo.styles = st.memo.styles →
      st'.memo.styles.Nodup ∧ ∀ s ∈ st'.memo.styles, s ∈ st.memo.styles ∨ e = Ev.title s :=
    fun _ he => he.symm ▸ ⟨hn, fun _ hs => .inl hs⟩
  cases e with
  | other => exact same _ (by simp only [step]; split <;> rfl)
  | title s =>
    rcases step_title st h s with ⟨_, _, _, he⟩ | ⟨hs, he⟩ | he <;> rw [he]
    · exact same _ rfl
    · exact ⟨List.nodup_append.2 ⟨hn, by simp, fun a ha b hb e => hs (List.mem_singleton.1 hb ▸ e ▸ ha)⟩,
        fun t ht => (List.mem_append.1 ht).imp_right fun ht => congrArg Ev.title (List.mem_singleton.1 ht).symm⟩
    · exact same _ rfl

theorem run_styles : ∀ (evs : List Ev) (st : St), Inv st → st.memo.styles.Nodup →
    (run evs st).memo.styles.Nodup ∧
      ∀ s ∈ (run evs st).memo.styles, s ∈ st.memo.styles ∨ Ev.title s ∈ evs
  | [], _, _, hn => ⟨hn, fun _ hs => .inl hs⟩
  | e :: es, st, h, hn => by
    obtain ⟨hn', hm⟩ := step_styles st e h hn
    obtain ⟨h1, h2⟩ := run_styles es _ (step_inv st e h) hn'
    exact ⟨h1, fun s hs => (h2 s hs).elim (fun hs => (hm s hs).imp_right fun (he : e = Ev.title s) => he ▸ List.mem_cons_self)
      fun hs => .inr (List.mem_cons_of_mem _ hs)⟩

/-! ## the round trip -/

/-- While a rendered tree is read: once the sections opened above the frames `outer` are closed, the machine has
collected the nodes `c` in front of `outer`; styles are registered in depth order, at least down to the current level. -/
def Rep (σ : Nat → Style) (outer : List Frame) (c : List Node) (st : St) : Prop :=
  ∃ n cur inner, st = ⟨⟨stylesUpTo σ n, (inner ++ outer).length⟩, cur, inner ++ outer, false⟩ ∧
    GoodFrames (inner ++ outer) ∧ (inner ++ outer).length ≤ n ∧ close cur inner = c

/-- the title of a section at depth `outer.length` and its body -/
theorem Rep.open {σ : Nat → Style} (hσ : Injective σ) {outer : List Frame} {c : List Node} {st : St}
    (h : Rep σ outer c st) (body : Nat) :
    Rep σ (⟨outer.length, c⟩ :: outer) (List.replicate body Node.other)
      (run (Ev.title (σ outer.length) :: List.replicate body Ev.other) st) := by
  obtain ⟨n, cur, inner, rfl, hg, hln, rfl⟩ := h
  suffices ∃ n', outer.length < n' ∧ titleEvent (σ outer.length) ⟨⟨stylesUpTo σ n, _⟩, cur, inner ++ outer, false⟩ =
      ⟨⟨stylesUpTo σ n', outer.length + 1⟩, [], ⟨outer.length, close cur inner⟩ :: outer, false⟩ by
    obtain ⟨n', hn', he⟩ := this
    rw [run_cons, step, if_neg Bool.false_ne_true, he, run_others]
    exact ⟨n', _, [], rfl, ⟨rfl, hg.of_append⟩, hn', rfl⟩
  have hidx := indexOf_stylesUpTo σ hσ outer.length n
  by_cases hlt : outer.length < n
  · rw [if_pos hlt] at hidx
    exact ⟨n, hlt, titleEvent_known _ _ outer hidx inner cur hg⟩
  · -- a new style: styles are registered down to the current level, so no deeper section is open
    rw [if_neg hlt] at hidx
    have hi : inner = [] := List.eq_nil_of_length_eq_zero (by rw [List.length_append] at hln; omega)
    subst hi
    have hno : n = outer.length := by simp only [List.nil_append] at hln; omega
    subst hno
    refine ⟨outer.length + 1, Nat.lt_succ_self _, ?_⟩
    simp only [titleEvent]
    rw [check_new_ok _ _ hidx (stylesUpTo_length σ _), stylesUpTo_succ]
    rfl

/-- the section whose frame is the first of `outer` is closed -/
theorem Rep.close {σ : Nat → Style} {f : Frame} {outer : List Frame} {c : List Node} {st : St}
    (h : Rep σ (f :: outer) c st) : Rep σ outer (f.kids ++ [Node.sec c]) st := by
  obtain ⟨n, cur, inner, rfl, hg, hln, rfl⟩ := h
  exact ⟨n, cur, inner ++ [f], by simp, by simpa using hg, by simpa using hln, by rw [close_append]; rfl⟩

mutual
  theorem run_renderSec {σ : Nat → Style} (hσ : Injective σ) : ∀ (s : Sec) {outer : List Frame} {c : List Node} {st : St},
      Rep σ outer c st → Rep σ outer (c ++ [secNode s]) (run (renderSec σ outer.length s) st)
    | .mk body subs, outer, c, st, h => by
      rw [renderSec, ← List.cons_append, run_append]
      exact (run_renderSecs hσ subs (h.open hσ body)).close
  theorem run_renderSecs {σ : Nat → Style} (hσ : Injective σ) : ∀ (ss : List Sec) {outer : List Frame} {c : List Node} {st : St},
      Rep σ outer c st → Rep σ outer (c ++ secNodes ss) (run (renderSecs σ outer.length ss) st)
    | [], _, _, _, h => by simpa [renderSecs, secNodes, run] using h
    | s :: ss, _, c, _, h => by
      rw [renderSecs, run_append, secNodes, ← List.singleton_append, ← List.append_assoc]
      exact run_renderSecs hσ ss (run_renderSec hσ s h)
end

theorem run_renderSkeleton {σ : Nat → Style} (hσ : Injective σ) (t : Doc) :
    Rep σ [] (docNodes t) (run (renderSkeleton σ t) init) := by
  rw [renderSkeleton, run_append]
  exact run_renderSecs hσ t.subs ⟨0, _, [], run_others _ _ _ _, trivial, Nat.le_refl _, rfl⟩

/-! ## a size measure on stacks of section lists -/

mutual
  def secSize : Sec → Nat
    | .mk _ subs => secsSize subs + 2
  def secsSize : List Sec → Nat
    | [] => 0
    | s :: ss => secSize s + secsSize ss
end

def todoSize : List (List Sec) → Nat
  | [] => 0
  | ss :: rest => secsSize ss + 1 + todoSize rest

theorem todoSize_single (subs : List Sec) : todoSize [subs] = secsSize subs + 1 := by simp [todoSize]

/-! ## different trees give different nodes -/

theorem replicate_split {x y : List Node} (hx : x.head? ≠ some Node.other) (hy : y.head? ≠ some Node.other) :
    ∀ b1 b2 : Nat, List.replicate b1 Node.other ++ x = List.replicate b2 Node.other ++ y → b1 = b2 ∧ x = y
  | 0, 0, h => ⟨rfl, h⟩
  | 0, _ + 1, h => absurd (congrArg List.head? h) hx
  | _ + 1, 0, h => absurd (congrArg List.head? h).symm hy
  | b1 + 1, b2 + 1, h => (replicate_split hx hy b1 b2 (List.cons.inj h).2).imp_left (congrArg (· + 1))

theorem secNodes_head (ss : List Sec) : (secNodes ss).head? ≠ some Node.other := by
  cases ss with
  | nil => simp [secNodes]
  | cons s ss => cases s; simp [secNodes, secNode]

mutual
  theorem secNode_inj : ∀ (a b : Sec), secNode a = secNode b → a = b
    | .mk b1 s1, .mk b2 s2, h => by
      simp only [secNode, Node.sec.injEq] at h
      obtain ⟨hb, hs⟩ := replicate_split (secNodes_head s1) (secNodes_head s2) b1 b2 h
      rw [hb, secNodes_inj s1 s2 hs]
  theorem secNodes_inj : ∀ (a b : List Sec), secNodes a = secNodes b → a = b
    | [], [], _ => rfl
    | [], _ :: _, h => by simp [secNodes] at h
    | _ :: _, [], h => by simp [secNodes] at h
    | x :: xs, y :: ys, h => by
      simp only [secNodes, List.cons.injEq] at h
      rw [secNode_inj x y h.1, secNodes_inj xs ys h.2]
end

theorem docNodes_inj (t1 t2 : Doc) (h : docNodes t1 = docNodes t2) : t1 = t2 := by
  obtain ⟨b1, s1⟩ := t1
  obtain ⟨b2, s2⟩ := t2
  simp only [docNodes] at h
  obtain ⟨hb, hs⟩ := replicate_split (secNodes_head s1) (secNodes_head s2) b1 b2 h
  rw [hb, secNodes_inj s1 s2 hs]

end SnootyVerif.Sections
