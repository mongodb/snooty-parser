import SnootyVerif.Model.Walk

/-!
Lemmas for C17 (`Properties/C17.lean`). The walk is a worklist loop: `loop_spec` is its invariant-and-variant rule, and
`Inv` the one invariant, true for every scan root, from which every property of a finished walk is read off (`walk_spec`).
-/
namespace SnootyVerif.Walk

section
variable {κ : Type}

theorem mem_dirPairs {es : List (Entry κ)} {k : κ} {d : String} :
    (k, d) ∈ dirPairs es ↔ ∃ e ∈ es, e.kind = .dir k ∧ e.name = d := by
  simp only [dirPairs, List.mem_filterMap]
  refine exists_congr fun e => and_congr_right fun _ => ?_
  cases e.kind <;> simp

theorem mem_dirPairs_keys {es : List (Entry κ)} {k : κ} :
    k ∈ (dirPairs es).map (·.1) ↔ ∃ e ∈ es, e.kind = .dir k := by
  simp only [List.mem_map, Prod.exists, mem_dirPairs]
  constructor
  · rintro ⟨k, d, ⟨e, he, hk, -⟩, rfl⟩
    exact ⟨e, he, hk⟩
  · rintro ⟨e, he, hk⟩
    exact ⟨k, e.name, ⟨e, he, hk, rfl⟩, rfl⟩

theorem mem_yields {inJail : κ → Bool} {p : Path} {es : List (Entry κ)} {y : Path × κ} :
    y ∈ yields inJail p es ↔ ∃ e ∈ es, y.1 = p ++ [e.name] ∧ e.wanted = true ∧ inJail y.2 = true ∧
      (e.kind = .file y.2 ∨ e.kind = .dangling y.2) := by
  obtain ⟨q, c⟩ := y
  refine List.mem_filterMap.trans (exists_congr fun e => and_congr_right fun _ => ?_)
  cases e.kind with
  | file c' | dangling c' =>
    simp only [Option.ite_none_right_eq_some, Bool.and_eq_true, Option.some.injEq, Prod.mk.injEq, Kind.file.injEq,
      Kind.dangling.injEq, reduceCtorEq, or_false, false_or]
    constructor
    · rintro ⟨⟨hw, hj⟩, rfl, rfl⟩
      exact ⟨rfl, hw, hj, rfl⟩
    · rintro ⟨rfl, hw, hj, rfl⟩
      exact ⟨⟨hw, hj⟩, rfl, rfl⟩
  | _ => simp

end

variable {κ : Type} [DecidableEq κ]

theorem mem_lookupDir {c : κ} {e : Entry κ} :
    ∀ {ds : List (κ × List (Entry κ))}, e ∈ lookupDir c ds → ∃ d ∈ ds, e ∈ d.2
  | (k, es) :: t, h => by
    unfold lookupDir at h
    split at h
    · exact ⟨_, List.mem_cons_self, h⟩
    · obtain ⟨d, hd, he⟩ := mem_lookupDir h
      exact ⟨d, List.mem_cons_of_mem _ hd, he⟩

theorem dir_mem_dirTargets {fs : FS κ} {c k : κ} {e : Entry κ}
    (he : e ∈ fs.entries c) (hk : e.kind = .dir k) : k ∈ fs.dirTargets := by
  obtain ⟨d, hd, he⟩ := mem_lookupDir he
  exact List.mem_flatMap.2 ⟨d, hd, mem_dirPairs_keys.2 ⟨e, he, hk⟩⟩

theorem mem_dedup (l : List κ) (a : κ) : a ∈ dedup l ↔ a ∈ l := by
  induction l generalizing a with
  | nil => simp [dedup]
  | cons b t ih =>
    unfold dedup
    split
    · rw [ih, List.mem_cons]
      exact ⟨Or.inr, fun h => h.elim (fun e => e ▸ (ih b).1 ‹_›) id⟩
    · simp [ih]

theorem nodup_dedup (l : List κ) : (dedup l).Nodup := by
  induction l with
  | nil => simp [dedup]
  | cons b t ih =>
    simp only [dedup]
    split
    · exact ih
    · rename_i h; exact List.nodup_cons.2 ⟨h, ih⟩

theorem keys_dictInsert (k : κ) (v : String) (d : List (κ × String)) :
    (dictInsert k v d).map (·.1) = if k ∈ d.map (·.1) then d.map (·.1) else d.map (·.1) ++ [k] := by
  induction d with
  | nil => simp [dictInsert]
  | cons a t ih =>
    by_cases h : a.1 = k
    · simp [dictInsert, h]
    · simp only [dictInsert, h, if_false, List.map_cons, ih, List.mem_cons, Ne.symm h, false_or]
      split <;> simp

theorem mem_keys_dictInsert {k k' : κ} {v : String} {d : List (κ × String)} :
    k' ∈ (dictInsert k v d).map (·.1) ↔ k' = k ∨ k' ∈ d.map (·.1) := by
  rw [keys_dictInsert]
  split
  · exact ⟨Or.inr, fun h => h.elim (· ▸ ‹_›) id⟩
  · rw [List.mem_append, List.mem_singleton, or_comm]

theorem nodup_keys_dictInsert {k : κ} {v : String} {d : List (κ × String)} (h : (d.map (·.1)).Nodup) :
    ((dictInsert k v d).map (·.1)).Nodup := by
  rw [keys_dictInsert]
  split
  · exact h
  · rename_i hk
    exact List.nodup_append.2 ⟨h, List.pairwise_singleton _ _, fun a ha b hb e => hk (List.mem_singleton.1 hb ▸ e ▸ ha)⟩

theorem mem_dictInsert {k : κ} {v : String} {d : List (κ × String)} {x : κ × String}
    (h : x ∈ dictInsert k v d) : x = (k, v) ∨ x ∈ d := by
  induction d with
  | nil => simpa [dictInsert] using h
  | cons a t ih =>
    unfold dictInsert at h
    split at h
    · rename_i e
      exact (List.mem_cons.1 (e ▸ h)).imp_right (List.mem_cons_of_mem _)
    · rcases List.mem_cons.1 h with h | h
      · exact Or.inr (h ▸ List.mem_cons_self)
      · exact (ih h).imp_right (List.mem_cons_of_mem _)

/-! `addDiags P` is the fold of conditional inserts; `mkDict` is the case where the condition always holds. -/

theorem mkDict_eq (ps : List (κ × String)) : mkDict ps = addDiags (fun _ => true) ps [] := by
  simp [mkDict, addDiags]

theorem addDiags_cons (P : κ → Bool) (a : κ × String) (t acc : List (κ × String)) :
    addDiags P (a :: t) acc = addDiags P t (if P a.1 then dictInsert a.1 a.2 acc else acc) := rfl

theorem addDiags_keys_nodup (P : κ → Bool) (ps : List (κ × String)) :
    ∀ acc : List (κ × String), (acc.map (·.1)).Nodup → ((addDiags P ps acc).map (·.1)).Nodup := by
  induction ps with
  | nil => exact fun _ h => h
  | cons a t ih =>
    intro acc h
    rw [addDiags_cons]
    refine ih _ ?_
    split
    · exact nodup_keys_dictInsert h
    · exact h

theorem mem_addDiags_keys (P : κ → Bool) (ps : List (κ × String)) :
    ∀ (acc : List (κ × String)) (k : κ),
      k ∈ (addDiags P ps acc).map (·.1) ↔ k ∈ acc.map (·.1) ∨ (k ∈ ps.map (·.1) ∧ P k = true) := by
  induction ps with
  | nil => intro acc k; simp [addDiags]
  | cons a t ih =>
    intro acc k
    -- the head contributes the key `a.1` exactly when `P a.1`
    have hk : k = a.1 ∧ P k = true ↔ k = a.1 ∧ P a.1 = true := and_congr_right fun h => by rw [h]
    rw [addDiags_cons, ih, List.map_cons, List.mem_cons, or_and_right, hk]
    by_cases hp : P a.1 = true
    · rw [if_pos hp, mem_keys_dictInsert, and_iff_left hp, or_assoc, or_left_comm]
    · rw [if_neg hp, eq_false hp, and_false, false_or]

theorem mem_addDiags (P : κ → Bool) (ps : List (κ × String)) :
    ∀ (acc : List (κ × String)) (x : κ × String),
      x ∈ addDiags P ps acc → x ∈ acc ∨ (x ∈ ps ∧ P x.1 = true) := by
  induction ps with
  | nil => exact fun _ _ => Or.inl
  | cons a t ih =>
    intro acc x h
    rw [addDiags_cons] at h
    rcases ih _ x h with h | ⟨h, h2⟩
    · split at h
      · rename_i hp
        rcases mem_dictInsert h with rfl | h
        · exact Or.inr ⟨List.mem_cons_self, hp⟩
        · exact Or.inl h
      · exact Or.inl h
    · exact Or.inr ⟨List.mem_cons_of_mem _ h, h2⟩

/-- `dirs_set` of the directory `c` -/
def dset (fs : FS κ) (c : κ) : List (κ × String) := mkDict (dirPairs (fs.entries c))

theorem dset_nodup (fs : FS κ) (c : κ) : ((dset fs c).map (·.1)).Nodup := by
  rw [dset, mkDict_eq]; exact addDiags_keys_nodup _ _ [] List.nodup_nil

theorem mem_dset_keys {fs : FS κ} {c k : κ} :
    k ∈ (dset fs c).map (·.1) ↔ ∃ e ∈ fs.entries c, e.kind = .dir k := by
  simp [dset, mkDict_eq, mem_addDiags_keys, mem_dirPairs_keys]

theorem mem_dset {fs : FS κ} {c k : κ} {d : String} (h : (k, d) ∈ dset fs c) :
    ∃ e ∈ fs.entries c, e.kind = .dir k ∧ e.name = d := by
  rw [dset, mkDict_eq] at h
  exact mem_dirPairs.1 ((mem_addDiags _ _ _ _ h).resolve_left List.not_mem_nil).1

/-- what is left in `dirs` -/
def kept (fs : FS κ) (c : κ) (seen : List κ) : List (κ × String) :=
  (dset fs c).filter fun kd => decide (kd.1 ∉ seen) && fs.inJail kd.1 && !fs.pruned kd.1

/-- the keys `seen.update(dirs_set)` adds -/
def newKeys (fs : FS κ) (c : κ) (seen : List κ) : List κ :=
  ((dset fs c).map (·.1)).filter (fun k => decide (k ∉ seen))

/-- the stack items pushed for the directory `c` reached under `p` -/
def children (fs : FS κ) (p : Path) (c : κ) (seen : List κ) : List (Path × κ) :=
  (kept fs c seen).map fun kd => (p ++ [kd.2], kd.1)

/-- the state once the listing of `c`, reached under `p`, has been dealt with -/
def scan (fs : FS κ) (p : Path) (c : κ) (st : St κ) : St κ :=
  { seen := st.seen ++ newKeys fs c st.seen,
    out := st.out ++ yields fs.inJail p (fs.entries c),
    diags := addDiags fs.hasToml (dset fs c) st.diags,
    scans := st.scans ++ [c] }

theorem step_dead {fs : FS κ} {p : Path} {c : κ} {st : St κ} (hj : fs.inJail c = false) :
    step fs p c st = .ok ([], st) := by
  simp [step, hj]

theorem step_live {fs : FS κ} {p : Path} {c : κ} {st : St κ} (hj : fs.inJail c = true) :
    step fs p c st = .ok (children fs p c st.seen, scan fs p c st) := by
  unfold step
  rw [if_neg (by simp [hj])]
  rfl

theorem mem_kept {fs : FS κ} {c : κ} {seen : List κ} {kd : κ × String} :
    kd ∈ kept fs c seen ↔ kd ∈ dset fs c ∧ kd.1 ∉ seen ∧ fs.inJail kd.1 = true ∧ fs.pruned kd.1 = false := by
  simp [kept, List.mem_filter, and_assoc]

theorem mem_children {fs : FS κ} {p : Path} {c : κ} {seen : List κ} {x : Path × κ} (h : x ∈ children fs p c seen) :
    ∃ e ∈ fs.entries c, e.kind = .dir x.2 ∧ x.1 = p ++ [e.name] ∧ fs.inJail x.2 = true ∧ fs.pruned x.2 = false := by
  obtain ⟨kd, hkd, rfl⟩ := List.mem_map.1 h
  obtain ⟨hd, -, hj, ht⟩ := mem_kept.1 hkd
  obtain ⟨e, he, hk, hn⟩ := mem_dset hd
  exact ⟨e, he, hk, hn ▸ rfl, hj, ht⟩

theorem mem_newKeys {fs : FS κ} {c k : κ} {seen : List κ} :
    k ∈ newKeys fs c seen ↔ k ∈ (dset fs c).map (·.1) ∧ k ∉ seen := by
  rw [newKeys, List.mem_filter, decide_eq_true_iff]

theorem newKeys_nodup (fs : FS κ) (c : κ) (seen : List κ) : (newKeys fs c seen).Nodup :=
  (dset_nodup fs c).sublist List.filter_sublist

theorem children_keys (fs : FS κ) (p : Path) (c : κ) (seen : List κ) :
    (children fs p c seen).map (·.2) = (newKeys fs c seen).filter fun k => fs.inJail k && !fs.pruned k := by
  simp only [children, kept, newKeys, List.map_map, List.filter_filter, List.filter_map, Function.comp_def]
  congr; funext kd
  simp [Bool.and_comm, Bool.and_left_comm]

theorem children_sublist (fs : FS κ) (p : Path) (c : κ) (seen : List κ) :
    ((children fs p c seen).map (·.2)).Sublist (newKeys fs c seen) :=
  children_keys fs p c seen ▸ List.filter_sublist

theorem mem_children_keys {fs : FS κ} {p : Path} {c k : κ} {seen : List κ} :
    k ∈ (children fs p c seen).map (·.2) ↔ k ∈ newKeys fs c seen ∧ fs.inJail k = true ∧ fs.pruned k = false := by
  simp [children_keys, List.mem_filter]

theorem loop_cons {fs : FS κ} {p : Path} {c : κ} {st st' : St κ} {ch : List (Path × κ)}
    (hs : step fs p c st = .ok (ch, st')) (fuel : Nat) (rest : List (Path × κ)) :
    loop fs (fuel + 1) ((p, c) :: rest) st = loop fs fuel (ch ++ rest) st' := by
  rw [loop, hs]

theorem loop_spec (fs : FS κ) (I : List (Path × κ) → St κ → Prop) (μ : List (Path × κ) → St κ → Nat)
    (hstep : ∀ p c rest st, I ((p, c) :: rest) st → ∃ ch st', step fs p c st = .ok (ch, st') ∧
      I (ch ++ rest) st' ∧ μ (ch ++ rest) st' < μ ((p, c) :: rest) st)
    (fuel : Nat) (stack : List (Path × κ)) (st : St κ) (hI : I stack st) :
    match loop fs fuel stack st with
    | .ok res => I [] res
    | .error _ => fuel < μ stack st := by
  induction fuel generalizing stack st with
  | zero =>
    cases stack with
    | nil => exact hI
    | cons x rest =>
      obtain ⟨_, _, _, _, hμ⟩ := hstep x.1 x.2 rest st hI
      exact Nat.zero_lt_of_lt hμ
  | succ n ih =>
    cases stack with
    | nil => exact hI
    | cons x rest =>
      obtain ⟨ch, st', hs, hI', hμ⟩ := hstep x.1 x.2 rest st hI
      have := ih _ _ hI'
      rw [loop_cons hs]
      generalize loop fs n (ch ++ rest) st' = r at this ⊢
      cases r with
      | ok res => exact this
      | error e => exact Nat.lt_of_le_of_lt this hμ

/-- the listing of `b` has been dealt with, under some clean path: what it yields is in `out`, the directories it
names are in `seen`, the nested projects among them are reported -/
def Scanned (fs : FS κ) (root : κ) (st : St κ) (b : κ) : Prop :=
  fs.inJail b = true ∧ ∃ p, Clean fs root p b ∧ (∀ y ∈ yields fs.inJail p (fs.entries b), y ∈ st.out) ∧
    ∀ k ∈ (dset fs b).map (·.1), k ∈ st.seen ∧ (fs.hasToml k = true → k ∈ st.diags.map (·.1))

/-- The invariant of the loop, for every scan root. `count_le` and `due` bound the directories scanned or on the
stack from above and from below by the root and `seen`. -/
structure Inv (fs : FS κ) (root : κ) (stack : List (Path × κ)) (st : St κ) : Prop where
  stack_clean : ∀ x ∈ stack, Clean fs root x.1 x.2
  scanned : ∀ b ∈ st.scans, Scanned fs root st b
  out_spec : ∀ y ∈ st.out, ∃ p b, Clean fs root p b ∧ y ∈ yields fs.inJail p (fs.entries b)
  diags_toml : ∀ kd ∈ st.diags, fs.hasToml kd.1 = true
  seen_nodup : st.seen.Nodup
  seen_targets : ∀ k ∈ st.seen, k ∈ fs.dirTargets
  count_le : ∀ a, (st.scans ++ stack.map (·.2)).count a ≤ (root :: st.seen).count a
  due : ∀ k, fs.inJail k = true → k = root ∨ (k ∈ st.seen ∧ fs.pruned k = false) → k ∈ st.scans ++ stack.map (·.2)

theorem inv_init (fs : FS κ) (root : κ) : Inv fs root [([], root)] St.init where
  stack_clean := fun _ hx => List.mem_singleton.1 hx ▸ Clean.root
  scanned := List.forall_mem_nil _
  out_spec := List.forall_mem_nil _
  diags_toml := List.forall_mem_nil _
  seen_nodup := List.nodup_nil
  seen_targets := List.forall_mem_nil _
  count_le := fun _ => Nat.le_refl _
  due := fun _ _ hx => hx.elim (· ▸ List.mem_singleton_self _) fun h => absurd h.1 List.not_mem_nil

variable {fs : FS κ} {root c : κ} {p : Path} {rest : List (Path × κ)} {st : St κ}

theorem scanned_mono {b : κ} (h : Scanned fs root st b) : Scanned fs root (scan fs p c st) b := by
  obtain ⟨hb, q, hq, ho, hd⟩ := h
  refine ⟨hb, q, hq, fun y hy => List.mem_append_left _ (ho y hy), fun k hk => ?_⟩
  obtain ⟨hs, hr⟩ := hd k hk
  exact ⟨List.mem_append_left _ hs, fun ht => (mem_addDiags_keys _ _ _ _).2 (Or.inl (hr ht))⟩

theorem scanned_scan (hj : fs.inJail c = true) (hc : Clean fs root p c) : Scanned fs root (scan fs p c st) c := by
  refine ⟨hj, p, hc, fun _ => List.mem_append_right _, fun k hk => ⟨?_, fun ht => ?_⟩⟩
  · by_cases hs : k ∈ st.seen
    · exact List.mem_append_left _ hs
    · exact List.mem_append_right _ (mem_newKeys.2 ⟨hk, hs⟩)
  · exact (mem_addDiags_keys _ _ _ _).2 (Or.inr ⟨hk, ht⟩)

theorem inv_dead (h : Inv fs root ((p, c) :: rest) st) (hj : fs.inJail c = false) : Inv fs root rest st :=
  { h with
    stack_clean := fun x hx => h.stack_clean x (List.mem_cons_of_mem _ hx)
    count_le := fun a =>
      Nat.le_trans (((List.sublist_cons_self c _).append_left st.scans).count_le a) (h.count_le a)
    due := fun k hk hx => by
      have := h.due k hk hx
      rw [List.map_cons, List.mem_append, List.mem_cons] at this
      rcases this with h | rfl | h
      · exact List.mem_append_left _ h
      · rw [hj] at hk; cases hk
      · exact List.mem_append_right _ h }

theorem inv_live (h : Inv fs root ((p, c) :: rest) st) (hj : fs.inJail c = true) :
    Inv fs root (children fs p c st.seen ++ rest) (scan fs p c st) :=
  have hc : Clean fs root p c := h.stack_clean (p, c) List.mem_cons_self
  { stack_clean := List.forall_mem_append.2 ⟨fun x hx => by
        obtain ⟨e, he, hk, hn, hj, ht⟩ := mem_children hx
        exact hn ▸ Clean.step hc he hk hj ht,
      fun x hx => h.stack_clean x (List.mem_cons_of_mem _ hx)⟩
    scanned := List.forall_mem_append.2
      ⟨fun b hb => scanned_mono (h.scanned b hb), List.forall_mem_singleton.2 (scanned_scan hj hc)⟩
    out_spec := List.forall_mem_append.2 ⟨h.out_spec, fun _ hy => ⟨p, c, hc, hy⟩⟩
    diags_toml := fun kd hkd => (mem_addDiags _ _ _ _ hkd).elim (h.diags_toml kd) (·.2)
    seen_nodup := List.nodup_append.2 ⟨h.seen_nodup, newKeys_nodup _ _ _, fun a ha b hb e =>
      (mem_newKeys.1 hb).2 (e ▸ ha)⟩
    seen_targets := List.forall_mem_append.2 ⟨h.seen_targets, fun k hk =>
      have ⟨e, he, hd⟩ := mem_dset_keys.1 (mem_newKeys.1 hk).1
      dir_mem_dirTargets he hd⟩
    count_le := fun a => by
      have h1 := h.count_le a
      have h2 := (children_sublist fs p c st.seen).count_le a
      simp only [scan, List.map_cons, List.map_append, List.count_append, List.count_cons, List.count_nil] at h1 ⊢
      omega
    due := fun k hk hx => by
      rw [List.map_append]
      by_cases hn : k ∈ newKeys fs c st.seen ∧ fs.pruned k = false
      · exact List.mem_append_right _ (List.mem_append_left _ (mem_children_keys.2 ⟨hn.1, hk, hn.2⟩))
      · have := h.due k hk (hx.imp_right fun ⟨hs, ht⟩ =>
          ⟨(List.mem_append.1 hs).resolve_right fun hs => hn ⟨hs, ht⟩, ht⟩)
        rw [List.map_cons, List.append_cons] at this
        exact List.mem_append.2 ((List.mem_append.1 this).imp_right (List.mem_append_right _)) }

/-- The variant is the number of directory targets not yet seen plus the length of the stack: the directories seen are
all different and all among the targets, and a directory walked into is one newly seen. -/
theorem walk_spec (fs : FS κ) (root : κ) (fuel : Nat) :
    match walk fs root fuel with
    | .ok res => Inv fs root [] res
    | .error _ => fuel < fs.fuel := by
  refine loop_spec fs (Inv fs root)
    (fun stack st => (dedup fs.dirTargets).length - st.seen.length + stack.length) ?_ fuel _ _ (inv_init fs root)
  intro p c rest st h
  by_cases hj : fs.inJail c = true
  · have h' := inv_live h hj
    refine ⟨_, _, step_live hj, h', ?_⟩
    have h1 := (children_sublist fs p c st.seen).length_le
    have h2 := h'.seen_nodup.length_le_of_subset fun k hk => (mem_dedup _ k).2 (h'.seen_targets k hk)
    simp only [scan, List.length_append, List.length_map, List.length_cons] at h1 h2 ⊢
    omega
  · rw [Bool.not_eq_true] at hj
    exact ⟨_, _, step_dead hj, inv_dead h hj, Nat.lt_succ_self _⟩

theorem walk_inv {fuel : Nat} {res : St κ} (h : walk fs root fuel = .ok res) : Inv fs root [] res := by
  have := walk_spec fs root fuel
  rwa [h] at this

theorem walk_total (fs : FS κ) (root : κ) {fuel : Nat} (hf : fs.fuel ≤ fuel) : ∃ res, walk fs root fuel = .ok res := by
  have := walk_spec fs root fuel
  cases h : walk fs root fuel with
  | ok res => exact ⟨res, rfl⟩
  | error e => rw [h] at this; exact absurd hf (Nat.not_le.2 this)

theorem scans_spec {stack : List (Path × κ)} (h : Inv fs root stack st) {b : κ} (hb : b ∈ st.scans) :
    fs.inJail b = true ∧ (b = root ∨ fs.pruned b = false) := by
  obtain ⟨hj, p, hc, _⟩ := h.scanned b hb
  cases hc with
  | root => exact ⟨hj, Or.inl rfl⟩
  | step _ _ _ _ ht => exact ⟨hj, Or.inr ht⟩

theorem scans_count_le (h : Inv fs root [] st) (a : κ) : st.scans.count a ≤ if a = root then 2 else 1 := by
  have h1 := h.count_le a
  have h2 := List.nodup_iff_count.1 h.seen_nodup a
  simp only [List.map_nil, List.append_nil, List.count_cons, beq_iff_eq, eq_comm (a := root)] at h1
  by_cases hr : a = root
  · rw [if_pos hr] at h1 ⊢
    exact Nat.le_trans h1 (Nat.add_le_add_right h2 1)
  · rw [if_neg hr] at h1 ⊢
    exact Nat.le_trans h1 h2

theorem clean_scanned (h : Inv fs root [] st) (hroot : fs.inJail root = true) {b : κ}
    (hc : Clean fs root p b) : Scanned fs root st b := by
  refine h.scanned b ?_
  induction hc with
  | root => simpa using h.due root hroot (Or.inl rfl)
  | step _ he hk hj ht ih =>
    obtain ⟨_, _, _, _, hd⟩ := h.scanned _ ih
    simpa using h.due _ hj (Or.inr ⟨(hd _ (mem_dset_keys.2 ⟨_, he, hk⟩)).1, ht⟩)

end SnootyVerif.Walk
