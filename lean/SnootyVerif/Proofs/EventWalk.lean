import SnootyVerif.Model.EventWalk
namespace SnootyVerif.EventWalk

theorem root_cons (f : String) (s : Stack) : Stack.root (f :: s) = (match s.root with | some r => some r | none => some f) := by
  unfold Stack.root
  rw [List.getLast?_cons]
  cases s.getLast? <;> rfl

mutual
theorem iterate_spec : ∀ (d : Nd) (s : Stack), iterate s d = (spec s.root s.cur d, s)
  | .leaf i, s => rfl
  | .plain i cs, s => by simp only [iterate, spec, iterateL_spec cs s]
  | .pre i pre cs, s => by simp only [iterate, spec, iterateL_spec pre s, iterateL_spec cs s]
  | .root i file cs, s => by
    simp only [iterate, spec, iterateL_spec cs (file :: s), root_cons]
    rfl
theorem iterateL_spec : ∀ (ds : List Nd) (s : Stack), iterateL s ds = (specL s.root s.cur ds, s)
  | [], s => rfl
  | d :: ds, s => by simp only [iterateL, specL, iterate_spec d s, iterateL_spec ds s]
end

def evtFiles : Evt → Option String × Option String
  | .pageStart r c | .pageEnd r c | .enter _ r c | .exit _ r c => (r, c)

/-- root is the page file and current is defined -/
def okEvt (r : String) (e : Evt) : Bool := (evtFiles e).1 == some r && (evtFiles e).2.isSome

mutual
theorem spec_ok : ∀ (d : Nd) (r c : String), (spec (some r) (some c) d).all (okEvt r) = true
  | .leaf i, r, c => by simp [spec, okEvt, evtFiles]
  | .plain i cs, r, c => by simp [spec, okEvt, evtFiles, specL_ok cs r c]
  | .pre i pre cs, r, c => by simp [spec, okEvt, evtFiles, specL_ok pre r c, specL_ok cs r c]
  | .root i file cs, r, c => by simp [spec, okEvt, evtFiles, specL_ok cs r file]
theorem specL_ok : ∀ (ds : List Nd) (r c : String), (specL (some r) (some c) ds).all (okEvt r) = true
  | [], r, c => rfl
  | d :: ds, r, c => by simp [specL, spec_ok d r c, specL_ok ds r c]
end

/-- A handler stack driven by the events: push the node on `enter` when `P` holds for it, pop on
`exit` when `P` holds. `none` = pop from an empty stack (Python: IndexError). -/
def bracket (P : Nat → Bool) : List Evt → List Nat → Option (List Nat)
  | [], st => some st
  | .enter i _ _ :: es, st => bracket P es (if P i then i :: st else st)
  | .exit i _ _ :: es, st =>
    if P i then
      match st with
      | [] => none
      | _ :: st' => bracket P es st'
    else bracket P es st
  | _ :: es, st => bracket P es st

theorem bracket_append (P : Nat → Bool) (a b : List Evt) (st : List Nat) :
    bracket P (a ++ b) st = (bracket P a st).bind (bracket P b) := by
  fun_induction bracket P a st <;> simp [bracket, *]

/-! A walk leaves every handler stack as it was (`∀ st, bracket P es st = some st`) because its events are built from `[]`
by `++` and by putting the `enter` and the `exit` of one node around the events of its children. -/

theorem bracket_append_neutral {P : Nat → Bool} {a b : List Evt} (ha : ∀ st, bracket P a st = some st)
    (hb : ∀ st, bracket P b st = some st) (st : List Nat) : bracket P (a ++ b) st = some st := by
  rw [bracket_append, ha, Option.bind_some, hb]

theorem bracket_wrap_neutral {P : Nat → Bool} {es : List Evt} (h : ∀ st, bracket P es st = some st)
    {i : Nat} {r c r' c' : Option String} (st : List Nat) :
    bracket P (.enter i r c :: es ++ [.exit i r' c']) st = some st := by
  cases hp : P i <;> simp [bracket, bracket_append, h, hp]

mutual
theorem bracket_spec (P : Nat → Bool) (r c : Option String) : ∀ (d : Nd) (st : List Nat),
    bracket P (spec r c d) st = some st
  | .leaf _, st => bracket_wrap_neutral (es := []) (fun _ => rfl) st
  | .plain _ cs, st => bracket_wrap_neutral (bracketL_spec P r c cs) st
  | .pre _ pre cs, st =>
    bracket_wrap_neutral (bracket_append_neutral (bracketL_spec P r c pre) (bracketL_spec P r c cs)) st
  | .root _ _ cs, st => bracket_wrap_neutral (bracketL_spec P _ _ cs) st
theorem bracketL_spec (P : Nat → Bool) (r c : Option String) : ∀ (ds : List Nd) (st : List Nat),
    bracket P (specL r c ds) st = some st
  | [], _ => rfl
  | d :: ds, st => bracket_append_neutral (bracket_spec P r c d) (bracketL_spec P r c ds) st
end

end SnootyVerif.EventWalk
