import SnootyVerif.Model.PageDb

/-! Invariant of the page-store transition system and its preservation by every step.  `step` is taken apart once
(`step_shape`, into the relation `Step`); the invariants here and in `Properties/C13.lean` go by cases on `Step`. -/
namespace SnootyVerif.PageDb
variable {R : Type}

/-- `res` is the postprocessing of the store as it was at generation `g` -/
def ValidRes (post : Store → R) (gen : Nat) (hist : List Store) (g : Nat) (res : R) : Prop :=
  g ≤ gen ∧ ∃ st, hist[g]? = some st ∧ res = post (snapshotOf st)

/-- what a worker phase carries is a genuine snapshot / result of one generation; in mode `fixed`
that generation is not older than the request -/
def WInv (m : Mode) (post : Store → R) (gen : Nat) (hist : List Store) (g₀ : Nat) : WPhase R → Prop
  | .copied g snap => (g ≤ gen ∧ ∃ st, hist[g]? = some st ∧ snap = snapshotOf st) ∧ (m = .fixed → g₀ ≤ g)
  | .ran g res => ValidRes post gen hist g res ∧ (m = .fixed → g₀ ≤ g)
  | .published g res => ValidRes post gen hist g res ∧ (m = .fixed → g₀ ≤ g)
  | .cachedHit g res => ValidRes post gen hist g res ∧ (m = .fixed → g₀ ≤ g)
  | .done (.ok g res) => ValidRes post gen hist g res ∧ (m = .fixed → g₀ ≤ g)
  | _ => True

structure Inv (m : Mode) (post : Store → R) (s : St R) : Prop where
  len : s.hist.length = s.gen + 1
  cur : s.hist[s.gen]? = some s.store
  cval : ValidRes post s.gen s.hist s.cachedGen s.cached
  ops : ∀ o ∈ s.ops, o.startGen ≤ s.gen ∧ WInv m post s.gen s.hist o.startGen o.w

theorem hist_append {hist : List Store} {g : Nat} {st : Store} (x : Store) (h : hist[g]? = some st) :
    (hist ++ [x])[g]? = some st := by
  rw [List.getElem?_append_left (List.getElem?_eq_some_iff.mp h).1]; exact h

/-! ### a new generation invalidates nothing that was valid -/

theorem ValidRes_succ {post : Store → R} {gen : Nat} {hist : List Store} {g : Nat} {res : R} (x : Store)
    (h : ValidRes post gen hist g res) : ValidRes post (gen + 1) (hist ++ [x]) g res := by
  obtain ⟨h1, st, h2, h3⟩ := h
  exact ⟨Nat.le_succ_of_le h1, st, hist_append x h2, h3⟩

theorem WInv_succ {m : Mode} {post : Store → R} {gen : Nat} {hist : List Store} {g₀ : Nat} {w : WPhase R} (x : Store)
    (h : WInv m post gen hist g₀ w) : WInv m post (gen + 1) (hist ++ [x]) g₀ w := by
  cases w with
  | none | started | cancelled => trivial
  -- what `WInv` says of a copy is `ValidRes` of it for the postprocessor `id`
  | copied g snap => exact ⟨ValidRes_succ (post := id) x h.1, h.2⟩
  | ran g res | published g res | cachedHit g res => exact ⟨ValidRes_succ x h.1, h.2⟩
  | done out =>
    cases out with
    | ok g res => exact ⟨ValidRes_succ x h.1, h.2⟩
    | cancelled => trivial

theorem publish_eq (m : Mode) (s : St R) (g : Nat) (res : R) :
    ∃ cd cg ch, publish m s g res = { s with cached := cd, cachedGen := cg, changed := ch } ∧
      (cd = res ∧ cg = g ∨ cd = s.cached ∧ cg = s.cachedGen) := by
  cases m with
  | asWritten => exact ⟨_, _, _, rfl, .inl ⟨rfl, rfl⟩⟩
  | fixed =>
    dsimp only [publish]
    split
    · exact ⟨_, _, _, rfl, .inl ⟨rfl, rfl⟩⟩
    · exact ⟨_, _, _, rfl, .inr ⟨rfl, rfl⟩⟩

theorem publish_store (m : Mode) (s : St R) (g : Nat) (res : R) : (publish m s g res).store = s.store := by
  obtain ⟨_, _, _, h, -⟩ := publish_eq m s g res
  rw [h]

theorem setOp_cached (s : St R) (r : Nat) (o : Op R) :
    (setOp s r o).cached = s.cached ∧ (setOp s r o).cachedGen = s.cachedGen ∧
    (setOp s r o).changed = s.changed ∧ (setOp s r o).store = s.store ∧ (setOp s r o).gen = s.gen :=
  ⟨rfl, rfl, rfl, rfl, rfl⟩

/-! ### what a step does

`step` flattened: its matches and guards resolved, the results grouped by the fields they write.  Of a guard only
what the invariants need is kept, so `Step` follows from `step` and not the other way round. -/

/-- how the worker phase changes in a step from `s` that writes nothing but the record of one operation -/
inductive WStep (m : Mode) (post : Store → R) (s : St R) : WPhase R → WPhase R → Prop
  | same {w} : WStep m post s w w
  | started {w} : WStep m post s w .started
  | cancelled {w} : WStep m post s w .cancelled
  | hit : dirty m s = false → WStep m post s .started (.cachedHit s.cachedGen s.cached)
  | copy : WStep m post s .started (.copied s.gen (snapshotOf s.store))
  | run {g snap} : WStep m post s (.copied g snap) (.ran g (post snap))
  | retPublished {g res} :
      WStep m post s (.published g res) (.done (if s.flag = true then .cancelled else .ok g res))
  | retHit {g res} : WStep m post s (.cachedHit g res) (.done (if s.flag = true then .cancelled else .ok g res))
  | retCancelled : WStep m post s .cancelled (.done .cancelled)

inductive Step (m : Mode) (post : Store → R) (s : St R) : Label → St R → Prop
  /-- `set`, `del`, `inv`: a new generation; cache, launcher and operations untouched -/
  | data {l st' ch'} :
      Step m post s l { s with store := st', gen := s.gen + 1, hist := s.hist ++ [st'], changed := ch' }
  /-- `cEnter`: afterwards the token is set or nobody holds the launcher lock -/
  | enter {r b c f' j'} : f' = true ∨ j' = none →
      Step m post s (.cEnter r b)
        { s with flag := f', joiner := j', ops := s.ops ++ [{ isReq := b, startGen := s.gen, c := c, w := .none }] }
  | join {r o c'} : s.ops[r]? = some o →
      Step m post s (.cJoin r) (setOp { s with joiner := none, flag := false } r { o with c := c' })
  /-- every other label but `wPublish`: the record of operation `r`, and `tracked` -/
  | op {l r o c' w' t'} : s.ops[r]? = some o → WStep m post s o.w w' →
      Step m post s l (setOp { s with tracked := t' } r { o with c := c', w := w' })
  /-- the only step that writes the cache -/
  | publish {r o g res cd cg ch} : s.ops[r]? = some o → o.w = .ran g res →
      (cd = res ∧ cg = g ∨ cd = s.cached ∧ cg = s.cachedGen) →
      Step m post s (.wPublish r)
        (setOp { s with cached := cd, cachedGen := cg, changed := ch } r { o with w := .published g res })

theorem step_shape {m : Mode} {post : Store → R} {s s' : St R} {l : Label}
    (hs : step m post s l = some s') : Step m post s l s' := by
  cases l with dsimp only [step] at hs
  | set | del | inv => cases hs; exact .data
  | cEnter r b =>
    obtain ⟨hc, hs⟩ := Option.ite_none_right_eq_some.mp hs
    split at hs
    · cases hs; exact .enter (.inl rfl)
    · cases hs; exact .enter (.inr hc.2)
  | cJoin r =>
    split at hs
    next o ho =>
      obtain ⟨-, hs⟩ := Option.ite_none_right_eq_some.mp hs
      cases hs; exact .join ho
    · cases hs
  | cClear r =>
    split at hs
    next o ho =>
      obtain ⟨-, hs⟩ := Option.ite_none_right_eq_some.mp hs
      cases hs; exact .op ho .same
    · cases hs
  | rTrack r =>
    split at hs
    next o ho =>
      obtain ⟨-, hs⟩ := Option.ite_none_right_eq_some.mp hs
      cases hs; exact .op ho .same
    · cases hs
  | rStart r =>
    split at hs
    next o ho =>
      obtain ⟨-, hs⟩ := Option.ite_none_right_eq_some.mp hs
      cases hs; exact .op ho .started
    · cases hs
  | wBegin r =>
    split at hs
    next o ho =>
      split at hs
      next hw =>
        split at hs
        next hd => cases hs; exact .op ho (hw ▸ .hit hd)
        · split at hs
          · cases hs; exact .op ho .cancelled
          · cases hs; exact .op ho (hw ▸ .copy)
      · cases hs
    · cases hs
  | wRun r =>
    split at hs
    next o ho =>
      split at hs
      next hw =>
        split at hs
        · cases hs; exact .op ho .cancelled
        · cases hs; exact .op ho (hw ▸ .run)
      · cases hs
    · cases hs
  | wPublish r =>
    split at hs
    next o ho =>
      split at hs
      next g res hw =>
        cases hs
        obtain ⟨cd, cg, ch, h, hc⟩ := publish_eq m s g res
        rw [h]; exact .publish ho hw hc
      · cases hs
    · cases hs
  | wRet r =>
    split at hs
    next o ho =>
      split at hs
      next hw => cases hs; exact .op ho (hw ▸ .retPublished)
      next hw => cases hs; exact .op ho (hw ▸ .retHit)
      next hw => cases hs; exact .op ho (hw ▸ .retCancelled)
      · cases hs
    · cases hs

theorem runFrom_preserves {m : Mode} {post : Store → R} {P : St R → Prop}
    (hstep : ∀ {s s' : St R} {l : Label}, P s → step m post s l = some s' → P s') {ls : List Label} :
    ∀ {s s' : St R}, P s → runFrom m post s ls = some s' → P s' := by
  induction ls with
  | nil => intro s s' h hr; cases hr; exact h
  | cons l ls ih =>
    intro s s' h hr
    simp only [runFrom] at hr
    split at hr
    next s₁ hs₁ => exact ih (hstep h hs₁) hr
    · cases hr

theorem inv_init (m : Mode) (post : Store → R) : Inv m post (init post) :=
  { len := rfl, cur := rfl, cval := ⟨Nat.le_refl _, [], rfl, rfl⟩,
    ops := by intro o ho; cases ho }

theorem inv_setOp {m : Mode} {post : Store → R} {s : St R} (h : Inv m post s) {r : Nat} {o : Op R} {c' : CPhase}
    {w' : WPhase R} {f' : Bool} {t' j' : Option Nat} (ho : s.ops[r]? = some o)
    (hw : WInv m post s.gen s.hist o.startGen w') :
    Inv m post (setOp { s with flag := f', tracked := t', joiner := j' } r { o with c := c', w := w' }) := by
  refine { h with ops := fun o₁ ho₁ => ?_ }
  cases List.mem_or_eq_of_mem_set ho₁ with
  | inl h' => exact h.ops o₁ h'
  | inr h' => subst h'; exact ⟨(h.ops o (List.mem_of_getElem? ho)).1, hw⟩

theorem winv_wstep {m : Mode} {post : Store → R} {s : St R} (h : Inv m post s) {g₀ : Nat} {w w' : WPhase R}
    (hg : g₀ ≤ s.gen) (hw : WInv m post s.gen s.hist g₀ w) (hs : WStep m post s w w') :
    WInv m post s.gen s.hist g₀ w' := by
  cases hs with
  | same => exact hw
  | started | cancelled | retCancelled => trivial
  | hit hd =>
    refine ⟨h.cval, fun hm => ?_⟩
    subst hm
    have : s.gen = s.cachedGen := by simpa [dirty] using hd
    exact this ▸ hg
  | copy => exact ⟨⟨Nat.le_refl _, s.store, h.cur, rfl⟩, fun _ => hg⟩
  | run =>
    obtain ⟨⟨h1, st, h2, rfl⟩, h4⟩ := hw
    exact ⟨⟨h1, st, h2, rfl⟩, h4⟩
  | retPublished | retHit =>
    split
    · trivial
    · exact hw

theorem inv_step {m : Mode} {post : Store → R} {s s' : St R} {l : Label}
    (h : Inv m post s) (hs : step m post s l = some s') : Inv m post s' := by
  cases step_shape hs with
  | data =>
    exact { len := by simp [h.len]
            cur := h.len ▸ List.getElem?_concat_length ..
            cval := ValidRes_succ _ h.cval
            ops := fun o ho => ⟨Nat.le_succ_of_le (h.ops o ho).1, WInv_succ _ (h.ops o ho).2⟩ }
  | enter =>
    refine { h with ops := fun o ho => ?_ }
    cases List.mem_append.mp ho with
    | inl h' => exact h.ops o h'
    | inr h' => cases List.mem_singleton.mp h'; exact ⟨Nat.le_refl _, trivial⟩
  | join ho => exact inv_setOp h ho (h.ops _ (List.mem_of_getElem? ho)).2
  | op ho hw =>
    have ⟨hg, hwi⟩ := h.ops _ (List.mem_of_getElem? ho)
    exact inv_setOp h ho (winv_wstep h hg hwi hw)
  | @publish r o g res cd cg ch ho hw hc =>
    have hwi := (h.ops o (List.mem_of_getElem? ho)).2
    rw [hw] at hwi
    have hcv : ValidRes post s.gen s.hist cg cd := by
      rcases hc with ⟨rfl, rfl⟩ | ⟨rfl, rfl⟩
      · exact hwi.1
      · exact h.cval
    exact inv_setOp (s := { s with cached := cd, cachedGen := cg, changed := ch }) { h with cval := hcv } ho hwi

theorem outcome?_some {s : St R} {r : Nat} {out : Outcome R} (h : outcome? s r = some out) :
    ∃ o, s.ops[r]? = some o ∧ o.w = .done out := by
  unfold outcome? at h
  split at h
  next o ho =>
    split at h
    next hw => cases h; exact ⟨o, ho, hw⟩
    · cases h
  · cases h

theorem inv_outcome {m : Mode} {post : Store → R} {s : St R} (h : Inv m post s) {r g : Nat} {res : R}
    (ho : outcome? s r = some (.ok g res)) :
    ∃ o, s.ops[r]? = some o ∧ o.startGen ≤ s.gen ∧ ValidRes post s.gen s.hist g res ∧
      (m = .fixed → o.startGen ≤ g) := by
  obtain ⟨o, hop, hw⟩ := outcome?_some ho
  have := h.ops o (List.mem_of_getElem? hop)
  rw [hw] at this
  exact ⟨o, hop, this.1, this.2.1, this.2.2⟩

theorem insertByKey_perm (p : Key × Ver) (s : Store) : (insertByKey p s).Perm (p :: s) := by
  induction s with
  | nil => exact List.Perm.refl _
  | cons q r ih =>
    simp only [insertByKey]
    split
    · exact List.Perm.refl _
    · exact (List.Perm.cons q ih).trans (List.Perm.swap p q r)

theorem snapshotOf_perm (s : Store) : (snapshotOf s).Perm s := by
  induction s with
  | nil => exact List.Perm.refl _
  | cons p r ih => exact (insertByKey_perm p _).trans (List.Perm.cons p ih)

end SnootyVerif.PageDb
