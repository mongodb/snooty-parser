import SnootyVerif.Model.Ids
import Std.Data.String.ToNat

namespace SnootyVerif.Ids

theorem append_toString_inj (p : String) {i j : Nat} (h : p ++ toString i = p ++ toString j) : i = j :=
  Nat.repr_injective ((String.append_right_inj p).1 h)

theorem sfx_inj (base : String) {i j : Nat} (h : sfx base i = sfx base j) : i = j :=
  append_toString_inj (base ++ "-") h

theorem firstFreeAux_spec (base : String) (f : Nat) (taken : List String) (k : Nat)
    (hf : taken.length = f) :
    k ≤ firstFreeAux base f taken k ∧ sfx base (firstFreeAux base f taken k) ∉ taken := by
  induction f generalizing taken k with
  | zero => simp [firstFreeAux, List.eq_nil_of_length_eq_zero hf]
  | succ f ih =>
    simp only [firstFreeAux]
    split
    · next h =>
      have ⟨h1, h2⟩ := ih (taken.erase (sfx base k)) (k + 1) (by rw [List.length_erase_of_mem h]; omega)
      -- the number found is above `k`, so its id is not the one just erased from `taken`
      refine ⟨by omega, fun hm => h2 ((List.mem_erase_of_ne fun heq => ?_).2 hm)⟩
      have := sfx_inj base heq
      omega
    · next h => exact ⟨Nat.le_refl _, h⟩

theorem firstFree_spec (base : String) (taken : List String) (k : Nat) :
    k ≤ firstFree base taken k ∧ sfx base (firstFree base taken k) ∉ taken :=
  firstFreeAux_spec base taken.length taken k rfl

theorem assignOne_cases (reserved issued : List String) (b : String) :
    (b ∉ issued ∧ assignOne reserved issued b = b) ∨
      ∃ k, 1 ≤ k ∧ assignOne reserved issued b = sfx b k ∧ sfx b k ∉ reserved ++ issued := by
  unfold assignOne
  split
  · exact .inr ⟨_, (firstFree_spec b _ 1).1, rfl, (firstFree_spec b _ 1).2⟩
  · exact .inl ⟨‹_›, rfl⟩

theorem assignOne_not_issued (reserved issued : List String) (b : String) :
    assignOne reserved issued b ∉ issued := by
  rcases assignOne_cases reserved issued b with ⟨h, e⟩ | ⟨k, _, e, h⟩ <;> rw [e]
  · exact h
  · exact fun hm => h (List.mem_append_right _ hm)

theorem assignOne_reserved (reserved issued : List String) (b : String)
    (h : assignOne reserved issued b ∈ reserved) : assignOne reserved issued b = b := by
  rcases assignOne_cases reserved issued b with ⟨_, e⟩ | ⟨k, _, e, h'⟩
  · exact e
  · exact absurd (List.mem_append_left _ (e ▸ h)) h'

theorem assignFrom_disjoint_nodup (reserved : List String) (bs issued : List String) :
    (∀ x ∈ assignFrom reserved issued bs, x ∉ issued) ∧ (assignFrom reserved issued bs).Nodup := by
  induction bs generalizing issued with
  | nil => simp [assignFrom]
  | cons b bs ih =>
    have ⟨h2, h3⟩ := ih (assignOne reserved issued b :: issued)
    constructor
    · exact List.forall_mem_cons.2
        ⟨assignOne_not_issued reserved issued b, fun x hx hxi => h2 x hx (List.mem_cons_of_mem _ hxi)⟩
    · exact List.nodup_cons.2 ⟨fun hm => h2 _ hm List.mem_cons_self, h3⟩

theorem assignFrom_length (reserved : List String) (bs issued : List String) :
    (assignFrom reserved issued bs).length = bs.length := by
  induction bs generalizing issued with
  | nil => simp [assignFrom]
  | cons b bs ih => simp [assignFrom, ih]

theorem assignFrom_getElem (reserved : List String) (pre post issued : List String) (b : String)
    (hb : b ∉ issued) (hpre : b ∉ pre) (hres : b ∈ reserved) :
    (assignFrom reserved issued (pre ++ b :: post))[pre.length]? = some b := by
  induction pre generalizing issued with
  | nil => simp [assignFrom, assignOne, hb]
  | cons p pre ih =>
    simp only [List.cons_append, assignFrom, List.length_cons, List.getElem?_cons_succ]
    refine ih _ (fun hm => ?_) fun hm => hpre (List.mem_cons_of_mem _ hm)
    rcases List.mem_cons.1 hm with h | h
    · -- `b` is reserved, so an id issued for `p` that equals `b` is `p` itself, unsuffixed
      rw [assignOne_reserved reserved issued p (h ▸ hres)] at h
      exact hpre (h ▸ List.mem_cons_self)
    · exact hb h

end SnootyVerif.Ids
