import SnootyVerif.Model.Dispatch
namespace SnootyVerif.Dispatch

theorem firstMatch_ok (chain : List (List String × List String)) (elseOut mro : List String)
    (hc : chain.all (fun e => outcomeOk e.2) = true) (he : outcomeOk elseOut = true) :
    outcomeOk (firstMatch chain elseOut mro) = true := by
  induction chain with
  | nil => exact he
  | cons e rest ih =>
    simp only [List.all_cons, Bool.and_eq_true] at hc
    unfold firstMatch
    split
    · exact hc.1
    · exact ih hc.2

theorem outcomeOk_spec {out : List String} (h : outcomeOk out = true) : ∀ t ∈ out, isRaise t = false := by
  simpa [outcomeOk] using h

theorem allOk_spec (f : String → Option (List String)) (ks : List String) (h : allOk f ks = true) :
    ∀ k ∈ ks, ∃ out, f k = some out ∧ ∀ t ∈ out, isRaise t = false := by
  intro k hk
  have := List.all_eq_true.mp h k hk
  cases hf : f k with
  | none => simp [hf] at this
  | some out => exact ⟨out, rfl, outcomeOk_spec (by simpa [hf] using this)⟩

theorem lookup_of_mem : ∀ {kinds : List (String × List String)} {k : String}, k ∈ kinds.map (·.1) →
    ∃ mro, lookup kinds k = some mro
  | [], _, h => nomatch h
  | (n, mro) :: rest, k, h => by
    unfold lookup
    split
    · exact ⟨_, rfl⟩
    · next hne =>
      rcases List.mem_cons.mp h with rfl | h
      · exact absurd BEq.rfl hne
      · exact lookup_of_mem h

/-- Which branch a class takes does not matter once no branch raises (`firstMatch_ok`): what is left to check of the
classes is that each is known. -/
theorem allOk_dispatch {kinds : List (String × List String)} {chain : List (List String × List String)}
    {elseOut ks : List String} (hf : ∀ mro, outcomeOk (firstMatch chain elseOut mro) = true)
    (hk : ks ⊆ kinds.map (·.1)) : allOk (dispatch kinds chain elseOut) ks = true := by
  refine List.all_eq_true.mpr fun k h => ?_
  obtain ⟨mro, hm⟩ := lookup_of_mem (hk h)
  simp [dispatch, hm, hf mro]

/-- `InlineJSONVisitor.dispatch_visit` returns at once or hands over to `JSONVisitor.dispatch_visit`: it is total
wherever that is. -/
theorem dispatchInline_ok {kinds : List (String × List String)} {chain : List (List String × List String)}
    {elseOut : List String} (skip : List String × List String) {k : String}
    (h : ∃ out, dispatch kinds chain elseOut k = some out ∧ ∀ t ∈ out, isRaise t = false) :
    ∃ out, dispatchInline kinds chain elseOut skip k = some out ∧ ∀ t ∈ out, isRaise t = false := by
  obtain ⟨out, ho, hout⟩ := h
  obtain ⟨mro, hl, rfl⟩ := Option.map_eq_some_iff.mp ho
  simp only [dispatchInline, hl, Option.map_some]
  split
  · exact ⟨_, rfl, by decide⟩
  · exact ⟨_, rfl, hout⟩

end SnootyVerif.Dispatch
