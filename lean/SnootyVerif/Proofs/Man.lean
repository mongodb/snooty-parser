import SnootyVerif.Proofs.ManEscape

/-!
The handler of the man page builder (C19). What each of its primitives (`write`, `flush`, `macro`, …) does to the chunk
invariant, the text, the font escapes and the two stacks; `handle_start` / `handle_end` as compositions of primitives
(`Prims`, `handleStart_spec`, `handleEnd_spec`), so that each invariant is one induction over `Prims` and holds along every
run (`run_prims`). From the chunk invariant to positions of the rendered string; stack balance over trees.
-/
namespace SnootyVerif.Man

/-- a macro chunk is one complete line: `.` body `\n` with no newline inside -/
def MacroShape (s : Str) : Prop := ∃ body, s = '.' :: (body ++ ['\n']) ∧ '\n' ∉ body

def chunkOk (bol : Bool) : Chunk → Prop
  | .macro s => bol = true ∧ MacroShape s
  | .raw s => scan bol s = true
  | .text s => scan bol s = true

/-- every macro chunk starts at a line start and is one line; no other chunk puts a control
character at a line start -/
def linesOk : Bool → List Chunk → Prop
  | _, [] => True
  | b, c :: r => chunkOk b c ∧ linesOk (endsBol b c.str) r

/-- concatenation of the text chunks -/
def textOf : List Chunk → Str
  | [] => []
  | .text s :: r => s ++ textOf r
  | _ :: r => textOf r

/-- the arguments of the `handle_text` calls an event list makes, in order -/
def evTexts : List Ev → List Str
  | [] => []
  | .text s :: r => s :: evTexts r
  | .stop (.url href) :: r => (' ' :: '(' :: (href ++ [')'])) :: evTexts r
  | _ :: r => evTexts r

theorem endsBol_macroLine (b : Bool) (name arg : Str) : endsBol b (macroLine name arg) = true := by
  have : macroLine name arg = ('.' :: (name ++ (if arg = [] then [] else ' ' :: arg))) ++ ['\n'] := by
    simp [macroLine]
  rw [this, endsBol_append]
  simp [endsBol]

theorem macroShape_macroLine (name arg : Str) (hn : '\n' ∉ name) (ha : '\n' ∉ arg) :
    MacroShape (macroLine name arg) := by
  refine ⟨name ++ (if arg = [] then [] else ' ' :: arg), by simp [macroLine], ?_⟩
  split <;> simp [hn, ha]

theorem flat_cons (c : Chunk) (r : List Chunk) : flat (c :: r) = c.str ++ flat r := List.flatMap_cons

theorem flat_append (xs ys : List Chunk) : flat (xs ++ ys) = flat xs ++ flat ys := by
  simp [flat]

theorem linesOk_append (xs ys : List Chunk) : ∀ b,
    linesOk b (xs ++ ys) ↔ linesOk b xs ∧ linesOk (endsBol b (flat xs)) ys := by
  induction xs with
  | nil => intro b; simp [linesOk, flat, endsBol]
  | cons c r ih =>
    intro b
    simp only [List.cons_append, linesOk, ih, flat_cons, endsBol_append, and_assoc]

structure Inv (st : St) : Prop where
  lines : linesOk true st.out
  tnl : st.trailingNl = endsBol true (flat st.out)
  buf : scan true st.buf = true

theorem inv_init : Inv {} := ⟨trivial, rfl, rfl⟩

theorem Inv.append {st st' : St} (hi : Inv st) {cs : List Chunk} (hc : linesOk st.trailingNl cs)
    (ho : st'.out = st.out ++ cs) (ht : st'.trailingNl = endsBol st.trailingNl (flat cs))
    (hb : scan true st'.buf = true) : Inv st' := by
  rw [hi.tnl] at hc ht
  exact ⟨by rw [ho, linesOk_append]; exact ⟨hi.lines, hc⟩, by rw [ho, ht, flat_append, endsBol_append], hb⟩

theorem inv_write (st : St) (c : Chunk) (hi : Inv st) (hc : ∀ b, chunkOk b c) : Inv (st.write c) := by
  unfold St.write
  split
  · exact hi
  · rename_i hne
    refine hi.append (cs := [c]) ⟨hc _, trivial⟩ rfl ?_ hi.buf
    have : flat [c] = c.str := by simp [flat]
    rw [this]
    unfold endsBol
    cases h : c.str.getLast? with
    | none => exact absurd (by simpa using h) hne
    | some x => rw [Bool.eq_iff_iff]; simp

theorem inv_flush (st : St) (hi : Inv st) : Inv st.flush := by
  have := inv_write st (.text st.buf) hi fun b => scan_mono _ b hi.buf
  exact ⟨this.lines, this.tnl, rfl⟩

theorem macro_eq (st : St) (name arg : Str) : st.macro name arg =
    { st.flush with
      out := st.flush.out ++ (if st.flush.trailingNl then [] else [Chunk.raw ['\n']]) ++ [Chunk.macro (macroLine name arg)],
      trailingNl := true } := by
  unfold St.macro
  cases h : st.flush.trailingNl <;> simp [h]

theorem inv_macro (st : St) (name arg : Str) (hi : Inv st) (hn : '\n' ∉ name) (ha : '\n' ∉ arg) :
    Inv (st.macro name arg) := by
  have hf := inv_flush st hi
  have hshape := macroShape_macroLine name arg hn ha
  rw [macro_eq]
  refine hf.append ?_ (List.append_assoc ..) ?_ hf.buf
  · cases st.flush.trailingNl
    · exact ⟨scan_mono _ _ (by decide), ⟨rfl, hshape⟩, trivial⟩
    · exact ⟨⟨rfl, hshape⟩, trivial⟩
  · simp [endsBol_append, flat, Chunk.str, endsBol_macroLine]

theorem inv_handleText (st : St) (s : Str) (hi : Inv st) : Inv (st.handleText s) := by
  refine ⟨hi.lines, hi.tnl, ?_⟩
  simp only [St.handleText, scan_append, hi.buf, Bool.true_and]
  exact scan_troffEscape s _

theorem textOf_append (xs ys : List Chunk) : textOf (xs ++ ys) = textOf xs ++ textOf ys := by
  induction xs with
  | nil => rfl
  | cons c r ih => cases c <;> simp [textOf, ih]

/-- all text so far: flushed text chunks followed by the pending buffer -/
def St.allText (st : St) : Str := textOf st.out ++ st.buf

theorem allText_write_raw (st : St) (s : Str) : (st.write (.raw s)).allText = st.allText := by
  unfold St.write St.allText
  split <;> simp [textOf_append, textOf]

theorem allText_flush (st : St) : st.flush.allText = st.allText := by
  unfold St.flush St.write St.allText
  split
  · rename_i h; simp only [Chunk.str] at h; simp [h]
  · simp [textOf_append, textOf]

theorem allText_macro (st : St) (name arg : Str) : (st.macro name arg).allText = st.allText := by
  rw [macro_eq, ← allText_flush st]
  generalize st.flush = s
  unfold St.allText
  cases s.trailingNl <;> simp [textOf_append, textOf]

def isFontChunk : Chunk → Bool
  | .raw s => s == fontEsc .bold || s == fontEsc .emphasis || s == fontRoman
  | _ => false

/-- the font escapes written so far -/
def fontsOf (cs : List Chunk) : List Chunk := cs.filter isFontChunk

/-- the formatting stack and the list stack: `write`, `flush`, `macro` and `handle_text` leave them alone, a node's
`handle_start` and `handle_end` push and pop them together -/
def St.stacks (st : St) : List Fmt × List Bool := (st.fstack, st.lstack)

theorem stacks_fst {st : St} {x : List Fmt × List Bool} (h : st.stacks = x) : st.fstack = x.1 := congrArg Prod.fst h
theorem stacks_snd {st : St} {x : List Fmt × List Bool} (h : st.stacks = x) : st.lstack = x.2 := congrArg Prod.snd h

theorem write_stacks (st : St) (c : Chunk) : (st.write c).stacks = st.stacks := by
  unfold St.write; split <;> rfl
theorem flush_stacks (st : St) : st.flush.stacks = st.stacks := write_stacks st _
theorem macro_stacks (st : St) (n a : Str) : (st.macro n a).stacks = st.stacks := by
  rw [macro_eq]; exact flush_stacks st
@[simp] theorem handleText_fstack (st : St) (s : Str) : (st.handleText s).fstack = st.fstack := rfl

theorem fontsOf_write (st : St) (c : Chunk) (h : isFontChunk c = false) : fontsOf (st.write c).out = fontsOf st.out := by
  unfold St.write; split
  · rfl
  · simp [fontsOf, List.filter_append, h]
theorem fontsOf_flush (st : St) : fontsOf st.flush.out = fontsOf st.out := by
  simp only [St.flush]; exact fontsOf_write st _ rfl
theorem fontsOf_macro (st : St) (n a : Str) : fontsOf (st.macro n a).out = fontsOf st.out := by
  rw [macro_eq, ← fontsOf_flush st]
  simp only [fontsOf, List.filter_append]
  have : (if st.flush.trailingNl = true then [] else [Chunk.raw ['\n']]).filter isFontChunk = [] := by split <;> rfl
  rw [this, List.append_nil]; exact List.append_nil _

/-- whenever no font change is open, the last font escape written (if any) selects roman -/
def FontInv (st : St) : Prop := st.fstack = [] → ∀ c ∈ (fontsOf st.out).getLast?, c = Chunk.raw fontRoman

theorem fontInv_init : FontInv {} := by intro _; simp [fontsOf]

theorem fontInv_same {st st' : St} (hs : st'.stacks = st.stacks) (ho : fontsOf st'.out = fontsOf st.out)
    (hi : FontInv st) : FontInv st' := by
  intro h; rw [ho]; exact hi ((stacks_fst hs).symm.trans h)

/-- `Prims st st' ts`: the handler gets from `st` to `st'` by its primitives, handing the texts `ts` to `handle_text`.
`set` changes what no invariant below reads; `font` is what `push` and `pop` have in common: one font escape (none, for a
`push` of the font already on top) and a new formatting stack, the escape being `\f1` if that stack is empty. -/
inductive Prims : St → St → List Str → Prop
  | set (st) (d : Int) (l : List Bool) (b : Bool) : Prims st { st with depth := d, lstack := l, needSplit := b } []
  | flush (st) : Prims st st.flush []
  | mac (st) {n a} : '\n' ∉ n → '\n' ∉ a → Prims st (st.macro n a) []
  | text (st s) : Prims st (st.handleText s) [s]
  | font (st) {s} (fs) : scan true s = true → (fs = [] → s = fontRoman) →
      Prims st ({ st with fstack := fs }.write (.raw s)) []
  | trans {a b c t u} : Prims a b t → Prims b c u → Prims a c (t ++ u)

namespace Prims

theorem refl (st : St) : Prims st st [] := .set st st.depth st.lstack st.needSplit

theorem inv {st st' ts} (h : Prims st st' ts) (hi : Inv st) : Inv st' := by
  induction h with
  | set => exact ⟨hi.lines, hi.tnl, hi.buf⟩
  | flush st => exact inv_flush st hi
  | mac st hn ha => exact inv_macro st _ _ hi hn ha
  | text st s => exact inv_handleText st s hi
  | font st fs hs => exact inv_write _ _ ⟨hi.lines, hi.tnl, hi.buf⟩ fun b => scan_mono _ b hs
  | trans _ _ ih1 ih2 => exact ih2 (ih1 hi)

theorem allText {st st' ts} (h : Prims st st' ts) : st'.allText = st.allText ++ ts.flatMap troffEscape := by
  induction h with
  | set => simp [St.allText]
  | flush st => simp [allText_flush]
  | mac st => simp [allText_macro]
  | text st s => simp [St.allText, St.handleText]
  | font st fs => rw [allText_write_raw]; simp [St.allText]
  | trans _ _ ih1 ih2 => simp [ih1, ih2]

theorem fontInv {st st' ts} (h : Prims st st' ts) (hi : FontInv st) : FontInv st' := by
  induction h with
  | set => exact hi
  | flush st => exact fontInv_same (flush_stacks st) (fontsOf_flush st) hi
  | mac st => exact fontInv_same (macro_stacks ..) (fontsOf_macro ..) hi
  | text st s => exact hi
  | font st fs _ hr =>
    intro hfs
    rw [hr ((stacks_fst (write_stacks ..)).symm.trans hfs)]
    simp [St.write, Chunk.str, fontRoman, fontsOf, isFontChunk]
  | trans _ _ ih1 ih2 => exact ih2 (ih1 hi)

end Prims

theorem push_eq (st : St) (f : Fmt) : st.push f =
    { st with fstack := f :: st.fstack }.write (.raw (if st.fstack.head? = some f then [] else fontEsc f)) := by
  unfold St.push
  split
  · rfl
  · simp only [St.write]; split <;> rfl

theorem scan_fontEsc (f : Fmt) : scan true (fontEsc f) = true := by cases f <;> decide

theorem Prims.push (st : St) (f : Fmt) : Prims st (st.push f) [] := by
  rw [push_eq]
  refine .font st _ ?_ nofun
  split
  · rfl
  · exact scan_fontEsc f

theorem pop_spec (st : St) :
    match st.pop with
    | .ok st' => Prims st st' [] ∧ st'.stacks = (st.fstack.tail, st.lstack)
    | .error _ => st.fstack = [] := by
  unfold St.pop
  cases st.fstack with
  | nil => rfl
  | cons f rest =>
    rcases rest with _ | ⟨a, _ | _⟩
    · exact ⟨.font st [] (by decide) fun _ => rfl, write_stacks ..⟩
    · exact ⟨.font st [a] (by decide) nofun, write_stacks ..⟩
    · exact ⟨.font st _ (scan_fontEsc a) nofun, write_stacks ..⟩

/-- what `handle_start` and `handle_end` of a node do to the two stacks -/
def pushS : Hd → List Fmt × List Bool → List Fmt × List Bool
  | .strong, (f, l) => (.bold :: f, l)
  | .emphasis, (f, l) => (.emphasis :: f, l)
  | .list o, (f, l) => (f, o :: l)
  | _, s => s

def popS : Hd → List Fmt × List Bool → List Fmt × List Bool
  | .strong, (f, l) => (f.tail, l)
  | .emphasis, (f, l) => (f.tail, l)
  | .list _, (f, l) => (f, l.tail)
  | _, s => s

theorem popS_pushS (h : Hd) (s : List Fmt × List Bool) : popS h (pushS h s) = s := by cases h <;> rfl

theorem nl_not_mem_bulletArg (n : Nat) : '\n' ∉ bulletArg n := by
  intro h
  rcases List.mem_append.1 h with h | h
  · revert h; decide
  · have := Nat.isDigit_of_mem_toDigits (by decide) (by decide) h
    revert this; decide

/-- `handle_start`: when it returns and what it has done then. It raises only on a list item outside any list. -/
theorem handleStart_spec (up : Char → Str) (st : St) (h : Hd) :
    match st.handleStart up h with
    | .ok st' => Prims st st' [] ∧ st'.stacks = pushS h st.stacks
    | .error _ => h = .listItem ∧ st.lstack = [] := by
  unfold St.handleStart
  -- `s`: the state after the paragraph splitter, whatever it did
  extract_lets +onlyGivenNames s
  have hpre : Prims st s [] ∧ s.stacks = st.stacks := by
    unfold s; split
    · split <;> exact ⟨.mac _ (by decide) (by decide), macro_stacks ..⟩
    · exact ⟨.refl st, rfl⟩
  clear_value s
  obtain ⟨hp, hS⟩ := hpre
  rw [← hS]
  cases h with
  | manpage name sec => exact ⟨hp.trans (.mac _ (by decide) (nl_not_mem_troffEscapeArg _)), macro_stacks ..⟩
  | sect name =>
    refine ⟨(hp.trans (.set ..)).trans (.mac _ ?_ (nl_not_mem_troffEscapeArg _)), macro_stacks ..⟩
    split <;> decide
  | paragraph | url | text => exact ⟨hp, rfl⟩
  | strong | emphasis => exact ⟨hp.trans (.push ..), by rw [push_eq]; exact write_stacks ..⟩
  | list o => exact ⟨(hp.trans (.set ..)).trans (.mac _ (by decide) (by decide)), macro_stacks ..⟩
  | listItem =>
    dsimp only
    by_cases hl : s.lstack = []
    · rw [if_pos hl]; exact ⟨rfl, (stacks_snd hS).symm.trans hl⟩
    · rw [if_neg hl]
      exact ⟨(hp.trans (.set ..)).trans (.mac _ (by decide) (nl_not_mem_bulletArg _)), macro_stacks ..⟩
  | indent | preformatted => exact ⟨hp.trans (.mac _ (by decide) (by decide)), macro_stacks ..⟩

/-- `handle_end`: it raises only if a stack it pops is empty, which is not so right after the `handle_start` of the
same node (`pushS`). -/
theorem handleEnd_spec (st : St) (h : Hd) :
    match st.handleEnd h with
    | .ok st' => Prims st st' (evTexts [.stop h]) ∧ st'.stacks = popS h st.stacks
    | .error _ => ∀ x, st.stacks ≠ pushS h x := by
  unfold St.handleEnd
  -- `s`: the state after the flush and the note that a block has ended
  extract_lets _ s
  have hpre : Prims st s [] ∧ s.stacks = st.stacks := by
    unfold s; split
    · exact ⟨(Prims.flush st).trans (.set ..), flush_stacks st⟩
    · exact ⟨.flush st, flush_stacks st⟩
  clear_value s
  obtain ⟨hp, hS⟩ := hpre
  rw [← hS]
  cases h with
  | manpage | paragraph | listItem | text => exact ⟨hp, rfl⟩
  | sect name => exact ⟨hp.trans (.set ..), rfl⟩
  | url href => exact ⟨hp.trans (.text ..), rfl⟩
  | strong | emphasis =>
    have := pop_spec s
    cases hp' : s.pop with
    | ok st' => rw [hp'] at this; exact ⟨hp.trans this.1, this.2⟩
    | error e => rw [hp'] at this; intro (f, l) hx; cases this.symm.trans (stacks_fst hx)
  | list o =>
    unfold St.stacks
    dsimp only
    cases s.lstack with
    | nil => intro (f, l) hx; cases congrArg Prod.snd hx
    | cons a r => exact ⟨(hp.trans (.set ..)).trans (.mac _ (by decide) (by decide)), macro_stacks ..⟩
  | indent | preformatted => exact ⟨hp.trans (.mac _ (by decide) (by decide)), macro_stacks ..⟩

theorem handleStart_ok {up : Char → Str} {st st' : St} {h : Hd} (hs : st.handleStart up h = .ok st') :
    Prims st st' [] ∧ st'.stacks = pushS h st.stacks := by
  have := handleStart_spec up st h; rwa [hs] at this

theorem handleEnd_ok {st st' : St} {h : Hd} (hs : st.handleEnd h = .ok st') :
    Prims st st' (evTexts [.stop h]) ∧ st'.stacks = popS h st.stacks := by
  have := handleEnd_spec st h; rwa [hs] at this

theorem step_prims {up : Char → Str} {st st' : St} {e : Ev} (hs : st.step up e = .ok st') :
    Prims st st' (evTexts [e]) := by
  cases e with
  | start h => exact (handleStart_ok hs).1
  | text s => cases hs; exact .text st s
  | bad => cases hs
  | stop h => exact (handleEnd_ok hs).1

theorem inv_step (up : Char → Str) (st st' : St) (e : Ev) (hi : Inv st) (hs : st.step up e = .ok st') : Inv st' :=
  (step_prims hs).inv hi

theorem run_nil_ok {up : Char → Str} {st st' : St} : run up st [] = .ok st' ↔ st = st' := by simp [run]

theorem run_cons_ok {up : Char → Str} {e : Ev} {es : List Ev} {st st' : St} :
    run up st (e :: es) = .ok st' ↔ ∃ s, st.step up e = .ok s ∧ run up s es = .ok st' := by
  rw [run]; split <;> simp [*]

theorem run_append (up : Char → Str) (xs ys : List Ev) : ∀ st,
    run up st (xs ++ ys) = (match run up st xs with | .error e => .error e | .ok s => run up s ys) := by
  induction xs with
  | nil => intro st; rfl
  | cons e es ih =>
    intro st
    simp only [List.cons_append, run]
    split
    · rfl
    · exact ih _

theorem run_append_ok {up : Char → Str} {xs ys : List Ev} {st st' : St} :
    run up st (xs ++ ys) = .ok st' ↔ ∃ s, run up st xs = .ok s ∧ run up s ys = .ok st' := by
  rw [run_append]; split <;> simp [*]

theorem evTexts_append (xs ys : List Ev) : evTexts (xs ++ ys) = evTexts xs ++ evTexts ys := by
  induction xs with
  | nil => rfl
  | cons e r ih =>
    have h1 : ∀ zs, evTexts (e :: zs) = evTexts [e] ++ evTexts zs := fun zs => by
      cases e with
      | stop h => cases h <;> rfl
      | _ => rfl
    rw [List.cons_append, h1, h1 r, ih, List.append_assoc]

/-- every run that returns is a composition of primitives: all three invariants hold along it -/
theorem run_prims {up : Char → Str} {es : List Ev} {st st' : St} (h : run up st es = .ok st') :
    Prims st st' (evTexts es) := by
  induction es generalizing st with
  | nil => cases h; exact .refl _
  | cons e es ih =>
    obtain ⟨s, h1, h2⟩ := run_cons_ok.1 h
    exact evTexts_append [e] es ▸ (step_prims h1).trans (ih h2)

theorem scan_split {a : Str} {bol : Bool} {c : Char} {r : Str} (h : scan bol (a ++ c :: r) = true)
    (hp : endsBol bol a = true) : isCtl c = false := by
  simp only [scan_append, hp, scan, Bool.true_and, Bool.and_eq_true, Bool.not_eq_true'] at h
  exact h.2.1

/-- where the element `c` of `x ++ y` lies -/
theorem append_eq_append_cons {α} {x y a b : List α} {c : α} (h : x ++ y = a ++ c :: b) :
    (∃ a', a = x ++ a' ∧ y = a' ++ c :: b) ∨ ∃ r, x = a ++ c :: r := by
  rcases List.append_eq_append_iff.mp h with h | ⟨c', hs, hr⟩
  · exact .inl h
  · cases c' with
    | nil => exact .inl ⟨[], by simpa using hs.symm, by simpa using hr.symm⟩
    | cons x c'' => cases hr; exact .inr ⟨c'', hs⟩

/-- a macro line has no line start inside it -/
theorem MacroShape.no_split {s a : Str} {x : Char} {r : Str} (hs : MacroShape s) (h : s = a ++ x :: r)
    (ha : endsBol false a = true) : False := by
  obtain ⟨body, rfl, hnl⟩ := hs
  have ha : a.getLast? = some '\n' := by
    unfold endsBol at ha
    split at ha
    · cases ha
    · rw [‹a.getLast? = _›, eq_of_beq ha]
  -- `a` is a prefix of `'.' :: body`, which holds no newline
  have := congrArg List.dropLast (show ('.' :: body) ++ ['\n'] = a ++ x :: r from h)
  rw [List.dropLast_concat, List.dropLast_append_of_ne_nil (by simp)] at this
  have hm : '\n' ∈ '.' :: body := this ▸ List.mem_append_left _ (List.mem_of_getLast? ha)
  cases hm with
  | tail _ hm => exact hnl hm

/-- `a` ends at a line start (`endsBol`) and a control character follows: that position starts a macro chunk -/
theorem linesOk_split (cs : List Chunk) : ∀ (bol : Bool) (a : Str) (c : Char) (b : Str),
    linesOk bol cs → flat cs = a ++ c :: b → endsBol bol a = true → isCtl c = true →
    ∃ pre body post, cs = pre ++ Chunk.macro ('.' :: (body ++ ['\n'])) :: post ∧ flat pre = a ∧ '\n' ∉ body := by
  induction cs with
  | nil => intro bol a c b _ h; simp [flat] at h
  | cons ch rest ih =>
    intro bol a c b ⟨hch, hrest⟩ hflat hpos hctl
    rw [flat_cons] at hflat
    rcases append_eq_append_cons hflat with ⟨a', rfl, hr⟩ | ⟨r, hs⟩
    · rw [endsBol_append] at hpos
      obtain ⟨pre, body, post, rfl, rfl, h3⟩ := ih _ a' c b hrest hr hpos hctl
      exact ⟨ch :: pre, body, post, rfl, flat_cons .., h3⟩
    · cases ch with
      | raw s | text s =>
        obtain rfl : s = _ := hs
        rw [scan_split hch hpos] at hctl; cases hctl
      | «macro» s =>
        cases a with
        | nil =>
          obtain ⟨body, rfl, hnl⟩ := hch.2
          exact ⟨[], body, rest, rfl, rfl, hnl⟩
        | cons y ys => exact (hch.2.no_split hs hpos).elim

theorem bracket_balanced {up : Char → Str} {h : Hd} {es : List Ev}
    (hes : ∀ s s', run up s es = .ok s' → s'.stacks = s.stacks) {st st' : St}
    (hr : run up st (.start h :: (es ++ [.stop h])) = .ok st') : st'.stacks = st.stacks := by
  simp only [run_cons_ok, run_append_ok, run_nil_ok] at hr
  obtain ⟨s1, h1, s2, h2, s3, h3, rfl⟩ := hr
  rw [(handleEnd_ok h3).2, hes _ _ h2, (handleStart_ok h1).2, popS_pushS]

mutual
theorem events_balanced (up : Char → Str) : ∀ (t : ManNode) (st st' : St),
    run up st t.events = .ok st' → st'.stacks = st.stacks
  | .node h cs, _, _, hr => bracket_balanced (eventsL_balanced up cs) hr
  | .leaf h s, _, _, hr => by
    refine bracket_balanced (es := [_]) (fun s1 s2 h2 => ?_) hr
    simp only [run_cons_ok, run_nil_ok] at h2
    obtain ⟨_, h2, rfl⟩ := h2
    split at h2 <;> cases h2
    rfl
theorem eventsL_balanced (up : Char → Str) : ∀ (ts : List ManNode) (st st' : St),
    run up st (eventsL ts) = .ok st' → st'.stacks = st.stacks
  | [], _, _, hr => by cases hr; rfl
  | t :: ts, _, _, hr => by
    obtain ⟨s, h1, h2⟩ := run_append_ok.1 hr
    exact (eventsL_balanced up ts _ _ h2).trans (events_balanced up t _ _ h1)
end

theorem eventsL_fonts (up : Char → Str) : ∀ (ts : List ManNode) (st st' : St), FontInv st →
    run up st (eventsL ts) = .ok st' → st'.fstack = st.fstack ∧ FontInv st' :=
  fun ts st st' hi hr => ⟨stacks_fst (eventsL_balanced up ts st st' hr), (run_prims hr).fontInv hi⟩

theorem render_ok (up : Char → Str) (name sec : Str) (ast : Ast) (cs : List Chunk)
    (h : render up name sec ast = .ok cs) :
    ∃ k st, ast.toMan = .ok k ∧
      run up {} (ManNode.node (.manpage name sec) k).events = .ok st ∧ cs = st.out := by
  unfold render ManNode.toTroff at h
  split at h
  · cases h
  · split at h <;> cases h
    exact ⟨_, _, ‹_›, ‹_›, rfl⟩

/-- `Except` has no `DecidableEq`; through this a closed fact `r = .ok x` is evaluated once, by the kernel
(`by decide +kernel`), instead of being unfolded by `rfl` in the elaborator and again in the kernel -/
theorem ok_of_decide {ε α} [DecidableEq α] {r : Except ε α} {x : α}
    (h : (match r with | .ok a => decide (a = x) | .error _ => false) = true) : r = .ok x := by
  cases r with
  | ok a => exact congrArg _ (of_decide_eq_true h)
  | error e => cases h

end SnootyVerif.Man
