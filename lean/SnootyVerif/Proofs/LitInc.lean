import SnootyVerif.Model.LitInc

/-!
Lemmas and specification-level definitions for C20 (`Model/LitInc.lean`).  The searches are tied to
the library once (`firstMatch` is `List.findIdx?`, `lines_contain` a filter of the numbered lines,
the minimum indentation `List.min?`), and their properties are read off the library's lemmas.
-/
namespace SnootyVerif.LitInc

deriving instance DecidableEq for Except

/-! ## split / join -/

theorem splitLines_nil : splitLines [] = [[]] := rfl

theorem splitLines_cons (c : Char) (cs : List Char) :
    splitLines (c :: cs) =
      if c = '\n' then [] :: splitLines cs
      else (c :: (splitNE cs).1) :: (splitNE cs).2 := by
  simp only [splitLines, splitNE]
  split <;> rfl

theorem joinLines_cons_char (c : Char) (l : Line) (ls : List Line) :
    joinLines ((c :: l) :: ls) = c :: joinLines (l :: ls) := by
  cases ls <;> rfl

theorem join_split (t : List Char) : joinLines (splitLines t) = t := by
  induction t with
  | nil => rfl
  | cons c cs ih =>
    rw [splitLines_cons]
    split
    · next h => rw [h]; exact congrArg _ ih
    · exact (joinLines_cons_char ..).trans (congrArg _ ih)

theorem splitLines_no_nl (t : List Char) : ∀ l ∈ splitLines t, '\n' ∉ l := by
  induction t with
  | nil => simp [splitLines_nil]
  | cons c cs ih =>
    rw [splitLines_cons]
    split
    · exact List.forall_mem_cons.mpr ⟨List.not_mem_nil, ih⟩
    · next hc =>
      have ⟨h1, h2⟩ := List.forall_mem_cons.mp ih
      exact List.forall_mem_cons.mpr ⟨fun hm => (List.mem_cons.mp hm).elim (fun e => hc e.symm) h1, h2⟩

theorem splitLines_length (t : List Char) : (splitLines t).length = t.count '\n' + 1 := by
  induction t with
  | nil => rfl
  | cons c cs ih =>
    rw [splitLines_cons]
    rw [splitLines] at ih
    split <;> simp_all [splitLines]

theorem splitNE_append_no_nl (l : Line) (h : '\n' ∉ l) (rest : List Char) :
    splitNE (l ++ rest) = (l ++ (splitNE rest).1, (splitNE rest).2) := by
  induction l with
  | nil => rfl
  | cons c cs ih =>
    have hc : c ≠ '\n' := fun e => h (by simp [e])
    have hcs : '\n' ∉ cs := fun e => h (List.mem_cons_of_mem _ e)
    simp only [List.cons_append, splitNE, ih hcs, if_neg hc]

theorem split_join (ls : List Line) (hne : ls ≠ []) (h : ∀ l ∈ ls, '\n' ∉ l) :
    splitLines (joinLines ls) = ls := by
  induction ls with
  | nil => exact absurd rfl hne
  | cons l ls ih =>
    have hl := splitNE_append_no_nl l (h l List.mem_cons_self)
    cases ls with
    | nil =>
      have := hl []
      rw [List.append_nil] at this
      simp [joinLines, splitLines, this, splitNE]
    | cons l' ls' =>
      have ih' := ih (by simp) (fun x hx => h x (List.mem_cons_of_mem _ hx))
      rw [splitLines] at ih' ⊢
      rw [joinLines, hl]
      simp only [splitNE, if_true, List.append_nil]
      rw [ih']

/-! ## the marker recogniser -/

theorem matchHere_iff (isWord : Char → Bool) (needle line : Line) :
    matchHere isWord needle line = true ↔ ∃ s, line = needle ++ s ∧ allNonWord isWord s = true := by
  induction needle generalizing line with
  | nil => simp [matchHere]
  | cons n ns ih =>
    cases line with
    | nil => simp [matchHere]
    | cons c cs =>
      simp only [matchHere, Bool.and_eq_true, beq_iff_eq, ih, List.cons_append, List.cons.injEq]
      constructor
      · rintro ⟨rfl, s, rfl, hs⟩; exact ⟨s, ⟨rfl, rfl⟩, hs⟩
      · rintro ⟨s, ⟨rfl, rfl⟩, hs⟩; exact ⟨rfl, s, rfl, hs⟩

/-- `^\W*needle\W*$`: the line is the needle surrounded only by non-word characters. -/
theorem matchLine_iff (isWord : Char → Bool) (needle line : Line) :
    matchLine isWord needle line = true ↔
      ∃ p s, line = p ++ needle ++ s ∧ allNonWord isWord p = true ∧ allNonWord isWord s = true := by
  induction line with
  | nil =>
    simp only [matchLine, matchHere_iff]
    constructor
    · rintro ⟨s, h, hs⟩; exact ⟨[], s, by simpa using h, by simp [allNonWord], hs⟩
    · rintro ⟨p, s, h, _, hs⟩
      have h' := h.symm
      simp only [List.append_eq_nil_iff] at h'
      obtain ⟨⟨rfl, rfl⟩, rfl⟩ := h'
      exact ⟨[], rfl, hs⟩
  | cons c cs ih =>
    simp only [matchLine, Bool.or_eq_true, Bool.and_eq_true, ih, matchHere_iff]
    constructor
    · rintro (⟨s, h, hs⟩ | ⟨hc, p, s, h, hp, hs⟩)
      · exact ⟨[], s, by simpa using h, by simp [allNonWord], hs⟩
      · refine ⟨c :: p, s, by simp [h], ?_, hs⟩
        simp only [allNonWord, List.all_cons, Bool.and_eq_true] at hp ⊢
        exact ⟨hc, hp⟩
    · rintro ⟨p, s, h, hp, hs⟩
      cases p with
      | nil => left; exact ⟨s, by simpa using h, hs⟩
      | cons a p' =>
        right
        simp only [List.cons_append, List.cons.injEq] at h
        obtain ⟨rfl, rfl⟩ := h
        simp only [allNonWord, List.all_cons, Bool.and_eq_true] at hp
        exact ⟨hp.1, p', s, rfl, hp.2, hs⟩

/-! ## first match (specification) and `lines_contain` -/

/-- index of the first line carrying the marker -/
def firstMatch (isWord : Char → Bool) (needle : Line) : List Line → Option Nat
  | [] => none
  | l :: ls => if matchLine isWord needle l then some 0 else (firstMatch isWord needle ls).map (· + 1)

theorem firstMatch_eq_findIdx? (isWord : Char → Bool) (needle : Line) (ls : List Line) :
    firstMatch isWord needle ls = ls.findIdx? (matchLine isWord needle) := by
  induction ls with
  | nil => rfl
  | cons l ls ih => rw [firstMatch, List.findIdx?_cons, ih]

theorem firstMatch_none_iff (isWord : Char → Bool) (needle : Line) (ls : List Line) :
    firstMatch isWord needle ls = none ↔ ∀ l ∈ ls, matchLine isWord needle l = false := by
  rw [firstMatch_eq_findIdx?, List.findIdx?_eq_none_iff]

theorem firstMatch_append (isWord : Char → Bool) (needle : Line) (pre rest : List Line)
    (h : ∀ x ∈ pre, matchLine isWord needle x = false) :
    firstMatch isWord needle (pre ++ rest) = (firstMatch isWord needle rest).map (· + pre.length) := by
  simp only [firstMatch_eq_findIdx?, List.findIdx?_append, List.findIdx?_eq_none_iff.mpr h, Option.none_or]

theorem firstMatch_some_iff (isWord : Char → Bool) (needle : Line) (ls : List Line) (i : Nat) :
    firstMatch isWord needle ls = some i ↔
      ∃ pre l post, ls = pre ++ l :: post ∧ pre.length = i ∧ matchLine isWord needle l = true ∧
        ∀ x ∈ pre, matchLine isWord needle x = false := by
  constructor
  · rw [firstMatch_eq_findIdx?, List.findIdx?_eq_some_iff_getElem]
    rintro ⟨h, hi, hpre⟩
    refine ⟨ls.take i, ls[i], ls.drop (i + 1), ?_, List.length_take_of_le (Nat.le_of_lt h), hi, fun x hx => ?_⟩
    · rw [← List.drop_eq_getElem_cons h, List.take_append_drop]
    · obtain ⟨j, hj, rfl⟩ := List.mem_take_iff_getElem.mp hx
      exact Bool.eq_false_iff.mpr (hpre j (Nat.lt_of_lt_of_le hj (Nat.min_le_left ..)))
  · rintro ⟨pre, l, post, rfl, rfl, hl, hpre⟩
    rw [firstMatch_append _ _ _ _ hpre, firstMatch, if_pos hl]
    exact congrArg some (Nat.zero_add _)

theorem firstMatch_lt (isWord : Char → Bool) (needle : Line) (ls : List Line) (i : Nat)
    (h : firstMatch isWord needle ls = some i) : i < ls.length := by
  rw [firstMatch_eq_findIdx?, List.findIdx?_eq_some_iff_getElem] at h
  exact h.1

/-- `lines_contain` numbers the lines and keeps the numbers of those that match -/
theorem linesContainFrom_eq (isWord : Char → Bool) (needle : Line) (i : Nat) (ls : List Line) :
    linesContainFrom isWord needle i ls =
      ((ls.zipIdx i).filter fun ⟨l, _⟩ => matchLine isWord needle l).map (·.2) := by
  induction ls generalizing i with
  | nil => rfl
  | cons l ls ih =>
    rw [linesContainFrom, ih, List.zipIdx_cons, List.filter_cons]
    split <;> rfl

theorem linesContain_eq (isWord : Char → Bool) (needle : Line) (ls : List Line) :
    linesContain isWord needle ls =
      (ls.zipIdx.filter fun ⟨l, _⟩ => matchLine isWord needle l).map (·.2) :=
  linesContainFrom_eq isWord needle 0 ls

/-- `lines_contain` yields exactly the indices of the matching lines -/
theorem mem_linesContain (isWord : Char → Bool) (needle : Line) (ls : List Line) (k : Nat) :
    k ∈ linesContain isWord needle ls ↔ ∃ h : k < ls.length, matchLine isWord needle ls[k] = true := by
  simp only [linesContain_eq, List.mem_map, List.mem_filter, List.mem_zipIdx_iff_getElem?,
    List.getElem?_eq_some_iff]
  exact ⟨fun ⟨_, ⟨⟨h, e⟩, hm⟩, hk⟩ => hk ▸ ⟨h, e ▸ hm⟩, fun ⟨h, hm⟩ => ⟨(ls[k], k), ⟨⟨h, rfl⟩, hm⟩, rfl⟩⟩

/-- in increasing order, without repetition: a sublist of `0, 1, …` -/
theorem linesContain_sorted (isWord : Char → Bool) (needle : Line) (ls : List Line) :
    (linesContain isWord needle ls).Pairwise (· < ·) := by
  rw [linesContain_eq]
  exact (List.zipIdx_map_snd 0 ls ▸ List.pairwise_lt_range').sublist (List.filter_sublist.map _)

/-- the first index `lines_contain` yields is the first match -/
theorem head?_linesContain (isWord : Char → Bool) (needle : Line) (ls : List Line) :
    (linesContain isWord needle ls).head? = firstMatch isWord needle ls := by
  rw [linesContain_eq, List.head?_map, List.head?_filter, firstMatch_eq_findIdx?,
    List.findIdx?_eq_fst_find?_zipIdx]

theorem linesContain_eq_nil_iff (isWord : Char → Bool) (needle : Line) (ls : List Line) :
    linesContain isWord needle ls = [] ↔ firstMatch isWord needle ls = none := by
  rw [← head?_linesContain, List.head?_eq_none_iff]

/-! ## `_locate_text` -/

/-- value returned by `_locate_text`, in terms of the first match -/
theorem locate_fst (isWord : Char → Bool) (needle : Line) (ls : List Line) :
    (locate (linesContain isWord needle ls)).1 =
      match firstMatch isWord needle ls with
      | none => -1
      | some i => (i : Int) := by
  rw [← head?_linesContain]
  cases linesContain isWord needle ls <;> rfl

theorem mem_locate_snd (d : Diag) (ms : List Nat) :
    d ∈ (locate ms).2 ↔ d = .notFound ∧ ms = [] ∨ d = .ambiguous ∧ 2 ≤ ms.length := by
  rcases ms with _ | ⟨m, _ | ⟨a, b⟩⟩ <;> simp [locate]

/-! ## slicing -/

theorem normIdx_nat (n k : Nat) : normIdx n (k : Int) = min k n :=
  if_neg (Int.not_lt.mpr (Int.natCast_nonneg k))

theorem pySlice_nat {α : Type} (xs : List α) (a b : Nat) :
    pySlice xs (a : Int) (b : Int) = (xs.take b).drop a := by
  -- `take` and `drop` cap their argument at the length themselves
  rw [pySlice, normIdx_nat, normIdx_nat, ← List.take_eq_take_min, List.drop_eq_drop_iff, List.length_take,
    Nat.min_assoc, Nat.min_left_comm xs.length, Nat.min_self]

/-! ## bounds of the excerpt (specification) -/

/-- index of the first line of the excerpt -/
def lowerBound (isWord : Char → Bool) (sa : Option Line) (lines : List Line) : Nat :=
  match sa with
  | none => 0
  | some s => match firstMatch isWord s lines with
    | none => 0
    | some i => i + 1

/-- index just past the last line of the excerpt -/
def upperBound (isWord : Char → Bool) (eb : Option Line) (lines : List Line) : Nat :=
  match eb with
  | none => lines.length
  | some e => match firstMatch isWord e lines with
    | none => lines.length
    | some j => j

theorem bounds_startAfter (isWord : Char → Bool) (sa eb : Option Line) (lines : List Line) :
    (bounds isWord sa eb lines).startAfter = (lowerBound isWord sa lines : Int) := by
  cases sa with
  | none => rfl
  | some s =>
    simp only [bounds, lowerBound, locate_fst]
    cases firstMatch isWord s lines <;> rfl

theorem bounds_endBefore (isWord : Char → Bool) (sa eb : Option Line) (lines : List Line) :
    (bounds isWord sa eb lines).endBefore = (upperBound isWord eb lines : Int) := by
  cases eb with
  | none => simp [bounds, upperBound, show ¬ ((lines.length : Int) = -1) by omega]
  | some e =>
    simp only [bounds, upperBound, locate_fst]
    cases firstMatch isWord e lines with
    | none => simp
    | some j => simp [show ¬ ((j : Int) = -1) by omega]

/-- **the index arithmetic**: the excerpt is `lines[lowerBound : upperBound]` -/
theorem excerpt_fst (isWord : Char → Bool) (sa eb : Option Line) (lines : List Line) :
    (excerpt isWord sa eb lines).1 =
      (lines.take (upperBound isWord eb lines)).drop (lowerBound isWord sa lines) := by
  simp only [excerpt, bounds_startAfter, bounds_endBefore, pySlice_nat]

/-- the order check `start_after > end_before >= 0`, for a start bound `lb` and a requested end marker -/
theorem order_check_iff (isWord : Char → Bool) (e : Line) (lines : List Line) (lb : Nat) :
    ((lb : Int) > (locate (linesContain isWord e lines)).1 ∧ (locate (linesContain isWord e lines)).1 ≥ 0) ↔
      ∃ j, firstMatch isWord e lines = some j ∧ j < lb := by
  rw [locate_fst]
  cases firstMatch isWord e lines <;> simp <;> omega

/-- **the diagnostics of the search**: those of `_locate_text` for each requested marker, and the
order diagnostic when the end marker is found before the first line of the excerpt -/
theorem mem_excerpt_snd (isWord : Char → Bool) (sa eb : Option Line) (lines : List Line) (d : Diag) :
    d ∈ (excerpt isWord sa eb lines).2 ↔
      (∃ s, sa = some s ∧ d ∈ (locate (linesContain isWord s lines)).2) ∨
      (∃ e, eb = some e ∧ d ∈ (locate (linesContain isWord e lines)).2) ∨
      d = .order ∧ ∃ s e j, sa = some s ∧ eb = some e ∧ firstMatch isWord e lines = some j ∧
        j < lowerBound isWord sa lines := by
  have hs (s) : (locate (linesContain isWord s lines)).1 + 1 = (lowerBound isWord (some s) lines : Int) :=
    bounds_startAfter isWord (some s) none lines
  cases sa <;> cases eb <;>
    simp [excerpt, bounds, hs, order_check_iff, and_comm (b := d = Diag.order)]

/-! ### both markers carried by lines of the file -/

theorem excerpt_fst_of_found {isWord : Char → Bool} {s e : Line} {lines : List Line} {i j : Nat}
    (hs : firstMatch isWord s lines = some i) (he : firstMatch isWord e lines = some j) :
    (excerpt isWord (some s) (some e) lines).1 = (lines.take j).drop (i + 1) := by
  simp only [excerpt_fst, upperBound, lowerBound, hs, he]

theorem excerpt_fst_eq_nil_of_found {isWord : Char → Bool} {s e : Line} {lines : List Line} {i j : Nat}
    (hs : firstMatch isWord s lines = some i) (he : firstMatch isWord e lines = some j) (h : j ≤ i + 1) :
    (excerpt isWord (some s) (some e) lines).1 = [] := by
  rw [excerpt_fst_of_found hs he]
  exact List.drop_eq_nil_of_le (by rw [List.length_take]; omega)

theorem order_mem_iff_of_found {isWord : Char → Bool} {s e : Line} {lines : List Line} {i j : Nat}
    (hs : firstMatch isWord s lines = some i) (he : firstMatch isWord e lines = some j) :
    Diag.order ∈ (excerpt isWord (some s) (some e) lines).2 ↔ j ≤ i := by
  simp [mem_excerpt_snd, mem_locate_snd, lowerBound, hs, he, Nat.lt_succ_iff]

/-! ## dedent -/

theorem minList_eq_foldl (m : Nat) (xs : List Nat) : minList m xs = xs.foldl min m := by
  induction xs generalizing m with
  | nil => rfl
  | cons x xs ih => exact ih _

/-- `min(...)` over the indentations of the non-blank lines, `0` when there is none -/
theorem minIndent_eq (isSpace : Char → Bool) (lines : List Line) :
    minIndent isSpace lines = (((lines.filter (nonBlank isSpace)).map (indent isSpace)).min?).getD 0 := by
  unfold minIndent
  cases (lines.filter (nonBlank isSpace)).map (indent isSpace) with
  | nil => rfl
  | cons x xs => exact minList_eq_foldl x xs

theorem indent_mem (isSpace : Char → Bool) {lines : List Line} {l : Line}
    (hl : l ∈ lines) (hb : nonBlank isSpace l = true) :
    indent isSpace l ∈ (lines.filter (nonBlank isSpace)).map (indent isSpace) :=
  List.mem_map_of_mem (List.mem_filter.mpr ⟨hl, hb⟩)

theorem minIndent_le (isSpace : Char → Bool) (lines : List Line) (l : Line)
    (hl : l ∈ lines) (hb : nonBlank isSpace l = true) : minIndent isSpace lines ≤ indent isSpace l := by
  have hmem := indent_mem isSpace hl hb
  rw [minIndent_eq, List.min?_eq_some_min (List.ne_nil_of_mem hmem)]
  exact List.min_le_of_mem hmem

theorem minIndent_attained (isSpace : Char → Bool) (lines : List Line)
    (h : ∃ l ∈ lines, nonBlank isSpace l = true) :
    ∃ l ∈ lines, nonBlank isSpace l = true ∧ indent isSpace l = minIndent isSpace lines := by
  obtain ⟨l, hl, hb⟩ := h
  have hne := List.ne_nil_of_mem (indent_mem isSpace hl hb)
  rw [minIndent_eq, List.min?_eq_some_min hne]
  obtain ⟨l', hl', he⟩ := List.mem_map.mp (List.min_mem hne)
  exact ⟨l', (List.mem_filter.mp hl').1, (List.mem_filter.mp hl').2, he⟩

theorem minIndent_none (isSpace : Char → Bool) (lines : List Line)
    (h : ∀ l ∈ lines, nonBlank isSpace l = false) : minIndent isSpace lines = 0 := by
  rw [minIndent_eq, List.filter_eq_nil_iff.mpr (by simpa using h)]; rfl

theorem lstrip_eq_drop (isSpace : Char → Bool) (l : Line) :
    lstrip isSpace l = l.drop (l.takeWhile isSpace).length := by
  unfold lstrip
  induction l with
  | nil => rfl
  | cons c cs ih =>
    simp only [List.dropWhile_cons, List.takeWhile_cons]
    split <;> simp [ih]

theorem indent_eq (isSpace : Char → Bool) (l : Line) :
    indent isSpace l = (l.takeWhile isSpace).length := by
  have h := congrArg List.length (List.takeWhile_append_dropWhile (p := isSpace) (l := l))
  rw [List.length_append] at h
  rw [indent, lstrip, ← h, Nat.add_sub_cancel]

/-- the first `indent l` characters of a line are whitespace -/
theorem take_indent_all_space (isSpace : Char → Bool) (l : Line) (n : Nat) (h : n ≤ indent isSpace l) :
    (l.take n).all isSpace = true := by
  rw [indent_eq] at h
  rw [← List.takeWhile_append_dropWhile (p := isSpace) (l := l), List.take_append_of_le_length h,
    List.all_eq_true]
  exact fun c hc => List.all_eq_true.mp List.all_takeWhile c (List.mem_of_mem_take hc)

/-- a blank line (nothing left after `lstrip`) consists of whitespace only -/
theorem blank_all_space (isSpace : Char → Bool) (l : Line) (h : nonBlank isSpace l = false) :
    l.all isSpace = true := by
  have h0 : l.dropWhile isSpace = [] := by simpa [nonBlank, lstrip] using h
  rw [← List.takeWhile_append_dropWhile (p := isSpace) (l := l), h0, List.append_nil]
  exact List.all_takeWhile

/-- what `:dedent:` removes from a line is whitespace only: a non-blank line is indented at least
that far, a blank line is whitespace altogether -/
theorem take_minIndent_all_space (isSpace : Char → Bool) (lines : List Line) (l : Line) (hl : l ∈ lines) :
    (l.take (minIndent isSpace lines)).all isSpace = true := by
  cases hb : nonBlank isSpace l with
  | true => exact take_indent_all_space isSpace l _ (minIndent_le isSpace lines l hl hb)
  | false =>
    exact List.all_eq_true.mpr fun c hc =>
      List.all_eq_true.mp (blank_all_space isSpace l hb) c (List.mem_of_mem_take hc)

/-! ## parse_linenos -/

/-- a check that fails with an error lets a success through only if it passes -/
theorem ite_error_eq_ok {ε α : Type} {c : Prop} [Decidable c] {e : ε} {x : Except ε α} {a : α} :
    (if c then .error e else x) = .ok a ↔ ¬c ∧ x = .ok a := by
  split <;> simp [*]

theorem parseTerm_ok (isSpace : Char → Bool) (maxVal : Nat) (t : List Char) (lo hi : Int)
    (h : parseTerm isSpace maxVal t = .ok (lo, hi)) : 0 ≤ lo ∧ lo ≤ hi ∧ hi ≤ (maxVal : Int) := by
  simp only [parseTerm] at h
  split at h; · cases h
  split at h; · cases h
  simp only [ite_error_eq_ok, Except.ok.injEq, Prod.mk.injEq] at h
  omega

/-- `parseTerms` is `mapM parseTerm` in `Except`: it succeeds with the results of the terms -/
theorem map_parseTerm_of_ok (isSpace : Char → Bool) (maxVal : Nat) (ts : List (List Char))
    (ps : List (Int × Int)) (h : parseTerms isSpace maxVal ts = .ok ps) :
    ts.map (parseTerm isSpace maxVal) = ps.map .ok := by
  induction ts generalizing ps with
  | nil => cases h; rfl
  | cons t ts ih =>
    simp only [parseTerms] at h
    split at h
    · cases h
    · next hp =>
      split at h
      · cases h
      · next hps => cases h; rw [List.map_cons, List.map_cons, hp, ih _ hps]

theorem parseTerms_ok (isSpace : Char → Bool) (maxVal : Nat) (ts : List (List Char)) (ps : List (Int × Int))
    (h : parseTerms isSpace maxVal ts = .ok ps) :
    ∀ p ∈ ps, 0 ≤ p.1 ∧ p.1 ≤ p.2 ∧ p.2 ≤ (maxVal : Int) := by
  intro p hp
  have := List.mem_map_of_mem (f := Except.ok (ε := LnErr)) hp
  rw [← map_parseTerm_of_ok isSpace maxVal ts ps h] at this
  obtain ⟨t, _, ht⟩ := List.mem_map.mp this
  exact parseTerm_ok isSpace maxVal t _ _ ht

theorem parseTerms_error_of_mem (isSpace : Char → Bool) (maxVal : Nat) (ts : List (List Char)) (t : List Char)
    (ht : t ∈ ts) (e : LnErr) (he : parseTerm isSpace maxVal t = .error e) :
    ∃ e', parseTerms isSpace maxVal ts = .error e' := by
  cases h : parseTerms isSpace maxVal ts with
  | error e' => exact ⟨e', rfl⟩
  | ok ps =>
    have := List.mem_map_of_mem (f := parseTerm isSpace maxVal) ht
    rw [map_parseTerm_of_ok isSpace maxVal ts ps h, he] at this
    simp at this

end SnootyVerif.LitInc
