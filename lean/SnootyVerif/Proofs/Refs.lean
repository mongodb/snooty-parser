import SnootyVerif.Model.Refs
import SnootyVerif.Proofs.Targets

/-!
Reference resolution (C08). What `resolveRef` returns is said by three equations, `resolveRef_doc`, `resolveRef_nil` and
`resolveRef_cons` (the role is `std:doc`; the key has no candidate; it has some); everything about a single reference is
read off them.
-/
namespace SnootyVerif.Refs
open SnootyVerif.Targets

theorem invResults_external (lower : Str → Str) (prefixes : Prefixes) (key : Str) (invs : List Inventory) :
    ∀ r ∈ invResults lower prefixes key invs, r.isInternal = false := by
  fun_induction invResults lower prefixes key invs
  case case1 => nofun
  case case2 ih => exact ih
  case case3 ih => exact List.forall_mem_cons.2 ⟨rfl, ih⟩

theorem lookup_fileid {isSpace : Char → Bool} {lower : Str → Str} {prefixes : Prefixes} {db : Db}
    {invs : List Inventory} {key : Str} {res : Result} {s hid : String}
    (h : res ∈ lookup isSpace lower prefixes db invs key) (hd : res.dest = .fileid s hid) :
    ∃ d ∈ db.get (normalize isSpace key), d.page = s ∧ d.htmlId = hid ∧ d.canonical = res.canonical := by
  rcases List.mem_append.1 h with h | h
  · obtain ⟨d, hm, rfl⟩ := List.mem_map.1 h
    cases hd
    exact ⟨d, hm, rfl, rfl, rfl⟩
  · cases res with
    | internal => cases invResults_external _ _ _ _ _ h
    | external => cases hd

theorem disambiguate_single_local {root : String} {cands : List Result} {l : Result}
    (h : cands.filter Result.isInternal = [l]) : disambiguate root cands = [l] := by
  unfold disambiguate; rw [h]

theorem disambiguate_same_page {root : String} {cands : List Result} {c : Result}
    (h1 : (cands.filter Result.isInternal).length ≠ 1)
    (h2 : (cands.filter Result.isInternal).filter (onPage root) = [c]) : disambiguate root cands = [c] := by
  unfold disambiguate
  split
  · simp_all
  · rw [h2]

theorem disambiguate_unchanged {root : String} {cands : List Result}
    (h1 : (cands.filter Result.isInternal).length ≠ 1)
    (h2 : ((cands.filter Result.isInternal).filter (onPage root)).length ≠ 1) : disambiguate root cands = cands := by
  unfold disambiguate
  split
  · simp_all
  · split
    · simp_all
    · rfl

theorem disambiguate_cases (root : String) (cands : List Result) :
    disambiguate root cands = cands ∨ ∃ c ∈ cands, disambiguate root cands = [c] := by
  unfold disambiguate
  split
  · next l hl => exact .inr ⟨l, (List.mem_filter.1 (hl ▸ List.mem_singleton_self l)).1, rfl⟩
  · split
    · next c hc => exact .inr ⟨c, (List.mem_filter.1 (List.mem_filter.1 (hc ▸ List.mem_singleton_self c)).1).1, rfl⟩
    · exact .inl rfl

/-- the candidate list after the optional disambiguation step of `RefsHandler.enter_node` -/
def pruned (root : String) (cands : List Result) : List Result :=
  if cands.length > 1 then disambiguate root cands else cands

/-- The guard `len(target_candidates) > 1` changes nothing: on at most one candidate neither rule alters the list. -/
theorem pruned_eq_disambiguate (root : String) : ∀ cands, pruned root cands = disambiguate root cands
  | [] => rfl
  | [x] => by cases x <;> rfl
  | _ :: _ :: _ => rfl

theorem pruned_subset (root : String) (cands : List Result) : ∀ r ∈ pruned root cands, r ∈ cands := by
  rw [pruned_eq_disambiguate]
  rcases disambiguate_cases root cands with h | ⟨c, hc, h⟩ <;> simp_all

theorem lastOf_eq_getLast? : ∀ l : List Result, lastOf l = l.getLast?
  | [] | [_] => rfl
  | _ :: y :: rest => (lastOf_eq_getLast? (y :: rest)).trans List.getLast?_cons_cons.symm

theorem lastOf_mem : ∀ (l : List Result) (r : Result), lastOf l = some r → r ∈ l :=
  fun l _ h => List.mem_of_getLast? (lastOf_eq_getLast? l ▸ h)

theorem lastOf_singleton (r : Result) : lastOf [r] = some r := rfl

theorem exists_lastOf_disambiguate (root : String) {cands : List Result} (h : cands ≠ []) :
    ∃ res, lastOf (disambiguate root cands) = some res := by
  rcases disambiguate_cases root cands with h' | ⟨c, _, h'⟩ <;> rw [h']
  · exact ⟨_, (lastOf_eq_getLast? _).trans (List.getLast?_eq_some_getLast h)⟩
  · exact ⟨c, rfl⟩

theorem lastOf_pruned_mem {root : String} {cands : List Result} {res : Result}
    (h : lastOf (pruned root cands) = some res) : res ∈ cands :=
  pruned_subset _ _ _ (lastOf_mem _ _ h)

theorem inject_not_injectable (k t : Inls) (h : injectable k = false) : inject k t = k := by
  fun_induction inject k t <;> simp_all [injectable]

theorem isNil_of_not_injectable : ∀ {k : Inls}, injectable k = false → k.isNil = false
  | .nil, h => nomatch h
  | .cons _ _, _ => rfl

/-- The code tests `injectable` before it injects a title; the test is immaterial. -/
theorem ite_injectable (k t : Inls) : (if injectable k then inject k t else k) = inject k t := by
  by_cases hi : injectable k = true
  · rw [if_pos hi]
  · rw [if_neg hi, inject_not_injectable k t (Bool.eq_false_iff.2 hi)]

def isAmbiguousDiag : Diag → Bool
  | .ambiguous .. => true
  | _ => false

def isNotFoundDiag : Diag → Bool
  | .notFound .. => true
  | _ => false

theorem resolveRef_doc {P : Params} {db : Db} {invs : List Inventory} {root : String} {r : Ref}
    (hdoc : r.domain = stdS ∧ r.role = docS) :
    resolveRef P db invs root r = .ok ⟨r.target, .none, r.kids, []⟩ := by
  unfold resolveRef; rw [if_pos hdoc]

theorem resolveRef_nil {P : Params} {db : Db} {invs : List Inventory} {root : String} {r : Ref}
    (hdoc : ¬ (r.domain = stdS ∧ r.role = docS))
    (he : lookup P.isSpace P.lower P.prefixes db invs (mkKey r.domain r.role r.target) = []) :
    ∃ t, resolveRef P db invs root r = .ok ⟨r.target, .none, inject r.kids t, [.notFound r.role r.target]⟩ := by
  unfold resolveRef
  rw [if_neg hdoc, he]
  simp only [List.isEmpty_nil, if_true, ite_injectable]
  exact ⟨_, rfl⟩

/-- The outcome for a key with candidates: the last of those left by the disambiguation is linked. Two tests of the code do
not show: `injectable` in front of the injection (`ite_injectable`) and the guard `len(target_candidates) > 1` in front of
the disambiguation (`pruned_eq_disambiguate`). Children without a slot are not empty, so that no `childless` is reported
for them either way. -/
theorem resolveRef_cons {P : Params} {db : Db} {invs : List Inventory} {root : String} {r : Ref}
    (hdoc : ¬ (r.domain = stdS ∧ r.role = docS))
    (hne : lookup P.isSpace P.lower P.prefixes db invs (mkKey r.domain r.role r.target) ≠ []) :
    let left := disambiguate root (lookup P.isSpace P.lower P.prefixes db invs (mkKey r.domain r.role r.target))
    ∃ res, lastOf left = some res ∧
      let kids := inject r.kids (if r.flag.contains '~' then abbreviate P.isSpace res.title else res.title)
      resolveRef P db invs root r = .ok ⟨res.canonical, res.dest, kids,
        (if left.length > 1 then [.ambiguous r.role r.target (left.map describe)] else []) ++
          if kids.isNil then [.childless res.canonical] else []⟩ := by
  unfold resolveRef
  generalize lookup P.isSpace P.lower P.prefixes db invs (mkKey r.domain r.role r.target) = cs at hne ⊢
  obtain ⟨res, hres⟩ := exists_lastOf_disambiguate root hne
  refine ⟨res, hres, ?_⟩
  simp only [if_neg hdoc, List.isEmpty_eq_false_iff.2 hne, Bool.false_eq_true, if_false]
  rw [show (if cs.length > 1 then disambiguate root cs else cs) = _ from pruned_eq_disambiguate root cs]
  simp only [hres]
  by_cases hi : injectable r.kids = true
  · rw [if_pos hi]
  · have hi := Bool.eq_false_iff.2 hi
    rw [hi, inject_not_injectable _ _ hi, isNil_of_not_injectable hi]
    simp only [Bool.false_eq_true, if_false, List.append_nil]

theorem resolveRef_found {P : Params} {db : Db} {invs : List Inventory} {root : String} {r : Ref} {o : RefOut}
    (hdoc : ¬ (r.domain = stdS ∧ r.role = docS))
    (hne : lookup P.isSpace P.lower P.prefixes db invs (mkKey r.domain r.role r.target) ≠ [])
    (h : resolveRef P db invs root r = .ok o) :
    ∃ res, lastOf (pruned root (lookup P.isSpace P.lower P.prefixes db invs (mkKey r.domain r.role r.target))) = some res ∧
      o.target = res.canonical ∧ o.dest = res.dest ∧
      o.kids = (if injectable r.kids then
          inject r.kids (if r.flag.contains '~' then abbreviate P.isSpace res.title else res.title) else r.kids) ∧
      ((pruned root (lookup P.isSpace P.lower P.prefixes db invs (mkKey r.domain r.role r.target))).length > 1 →
        Diag.ambiguous r.role r.target
          ((pruned root (lookup P.isSpace P.lower P.prefixes db invs (mkKey r.domain r.role r.target))).map describe) ∈ o.diags) ∧
      ((pruned root (lookup P.isSpace P.lower P.prefixes db invs (mkKey r.domain r.role r.target))).length ≤ 1 →
        ∀ d ∈ o.diags, isAmbiguousDiag d = false) ∧
      (∀ d ∈ o.diags, isNotFoundDiag d = false) := by
  obtain ⟨res, hres, e⟩ := resolveRef_cons (root := root) hdoc hne
  rw [e] at h
  cases h
  rw [pruned_eq_disambiguate]
  -- the statement spells out the two tests that `resolveRef_cons` leaves out
  refine ⟨res, hres, rfl, rfl, (ite_injectable _ _).symm, fun hl => by simp [hl], fun hl d hd => ?_, fun d hd => ?_⟩
  all_goals simp only [List.mem_append, List.mem_ite_nil_right, List.mem_singleton] at hd
  · rcases hd with ⟨h1, _⟩ | ⟨_, rfl⟩
    · omega
    · rfl
  · rcases hd with ⟨_, rfl⟩ | ⟨_, rfl⟩ <;> rfl

/-- `resolveRef` never takes its `IndexError` branch (`target_candidates[-1]` is applied to a non-empty list) -/
theorem resolveRef_total (P : Params) (db : Db) (invs : List Inventory) (root : String) (r : Ref) :
    ∃ o, resolveRef P db invs root r = .ok o := by
  by_cases hdoc : r.domain = stdS ∧ r.role = docS
  · exact ⟨_, resolveRef_doc hdoc⟩
  · by_cases he : lookup P.isSpace P.lower P.prefixes db invs (mkKey r.domain r.role r.target) = []
    · exact (resolveRef_nil hdoc he).elim fun _ e => ⟨_, e⟩
    · exact (resolveRef_cons hdoc he).elim fun _ e => ⟨_, e.2⟩

theorem resolveRef_notfound {P : Params} {db : Db} {invs : List Inventory} {root : String} {r : Ref} {o : RefOut}
    (hdoc : ¬ (r.domain = stdS ∧ r.role = docS))
    (he : lookup P.isSpace P.lower P.prefixes db invs (mkKey r.domain r.role r.target) = [])
    (h : resolveRef P db invs root r = .ok o) :
    o.target = r.target ∧ o.dest = .none ∧ o.diags = [.notFound r.role r.target] := by
  obtain ⟨_, e⟩ := resolveRef_nil (root := root) hdoc he
  rw [e] at h
  cases h
  exact ⟨rfl, rfl, rfl⟩

theorem resolveRef_fileid {P : Params} {db : Db} {invs : List Inventory} {root : String} {r : Ref} {o : RefOut}
    {s hid : String} (h : resolveRef P db invs root r = .ok o) (hd : o.dest = .fileid s hid) :
    ∃ d ∈ db.get (normalize P.isSpace (mkKey r.domain r.role r.target)),
      d.page = s ∧ d.htmlId = hid ∧ d.canonical = o.target := by
  by_cases hdoc : r.domain = stdS ∧ r.role = docS
  · rw [resolveRef_doc hdoc] at h; cases h; cases hd
  · by_cases he : lookup P.isSpace P.lower P.prefixes db invs (mkKey r.domain r.role r.target) = []
    · rw [(resolveRef_notfound hdoc he h).2.1] at hd; cases hd
    · obtain ⟨res, hres, ht, hdst, _⟩ := resolveRef_found hdoc he h
      rw [ht]
      exact lookup_fileid (lastOf_pruned_mem hres) (hdst ▸ hd)

theorem resolveRef_decided {P : Params} {db : Db} {invs : List Inventory} {root : String} {r : Ref} {o : RefOut}
    {c : Result} (hdoc : ¬ (r.domain = stdS ∧ r.role = docS))
    (hp : disambiguate root (lookup P.isSpace P.lower P.prefixes db invs (mkKey r.domain r.role r.target)) = [c])
    (h : resolveRef P db invs root r = .ok o) :
    o.dest = c.dest ∧ o.target = c.canonical ∧ ∀ d ∈ o.diags, isAmbiguousDiag d = false := by
  obtain ⟨res, hres, ht, hd, _, _, hno, _⟩ := resolveRef_found hdoc (fun he => by rw [he] at hp; cases hp) h
  rw [pruned_eq_disambiguate, hp] at hres hno
  cases hres
  exact ⟨hd, ht, hno (Nat.le_refl 1)⟩

theorem pass5Items_mem {P : Params} {db : Db} {invs : List Inventory} {root : String} {items : List Item}
    {os : List (String × Nat × RefOut)} (h : pass5Items P db invs root items = .ok os) :
    ∀ x ∈ os, ∃ r, Item.ref x.1 r ∈ items ∧ x.2.1 = r.rid ∧ resolveRef P db invs root r = .ok x.2.2 := by
  -- functional induction as in `Proofs/Targets.lean`
  fun_induction pass5Items P db invs root items generalizing os
  case case1 => cases h; nofun
  case case4 src r rest o ho _ hos ih =>  -- a reference: `ho` resolves it, `hos` is the walk of the rest
    cases h
    intro x hx
    rcases List.mem_cons.1 hx with rfl | hx
    · exact ⟨r, List.mem_cons_self, rfl, ho⟩
    · obtain ⟨r', hm, hr⟩ := ih hos x hx
      exact ⟨r', List.mem_cons_of_mem _ hm, hr⟩
  case case5 ih =>
    intro x hx
    obtain ⟨r', hm, hr⟩ := ih h x hx
    exact ⟨r', List.mem_cons_of_mem _ hm, hr⟩
  all_goals cases h

theorem pass5_mem {P : Params} {db : Db} {invs : List Inventory} (ps : List Page) :
    ∀ {oss : List (List (String × Nat × RefOut))}, pass5 P db invs ps = .ok oss →
      ∀ os ∈ oss, ∀ x ∈ os, ∃ p ∈ ps, ∃ r, Item.ref x.1 r ∈ p.items ∧ x.2.1 = r.rid ∧
        resolveRef P db invs p.slug r = .ok x.2.2 := by
  intro oss h
  fun_induction pass5 P db invs ps generalizing oss
  case case1 => cases h; nofun
  case case4 p ps o ho _ hos ih =>  -- `ho` is the walk of page `p`, `hos` that of the other pages
    cases h
    intro os hm x hx
    rcases List.mem_cons.1 hm with rfl | hm
    · exact ⟨p, List.mem_cons_self, pass5Items_mem ho x hx⟩
    · obtain ⟨p', hp', hr⟩ := ih hos os hm x hx
      exact ⟨p', List.mem_cons_of_mem _ hp', hr⟩
  all_goals cases h

theorem titled_slugs :
    ∀ (pages : List Page) {ps : List Page}, titled pages = .ok ps → ps.map Page.slug = pages.map Page.slug := by
  intro pages ps h
  fun_induction titled pages generalizing ps
  case case1 => cases h; rfl
  case case4 hps ih => cases h; simp [ih hps]
  all_goals cases h

theorem pass3Docs_mem {isSpace isWord : Char → Bool} (ps : List Page) :
    ∀ {db db' : Db}, pass3Docs isSpace isWord db ps = .ok db' →
      ∀ {k : Str} {d : LocalDef}, d ∈ db'.get k → d ∈ db.get k ∨ d.page ∈ ps.map Page.slug := by
  intro db db' h k d hd
  fun_induction pass3Docs isSpace isWord db ps
  case case1 => cases h; exact .inl hd
  case case2 ih => exact (ih h).imp_right (List.mem_cons_of_mem _)
  case case5 h1 _ h2 ih =>  -- a page with a heading: `h1`, `h2` are its two registrations
    rcases ih h with h3 | h3
    · rcases defineLocal_mem h2 h3 with h4 | h4
      · exact (defineLocal_mem h1 h4).imp_right fun ⟨h5, _⟩ => h5 ▸ List.mem_cons_self
      · exact .inr (h4.1 ▸ List.mem_cons_self)
    · exact .inr (List.mem_cons_of_mem _ h3)
  all_goals cases h

theorem contentsAux_mem (reserved : List String) (items : List Item) :
    ∀ (issued : List String) (has : Bool) (cd : Option Int) (acc : List (Nat × String)),
      ∀ x ∈ (contentsAux reserved items issued has cd acc).2.2,
        x ∈ acc ∨ x.2 ∈ Ids.assignFrom reserved issued (headingBases items) := by
  intro issued has cd acc x
  fun_induction contentsAux reserved items issued has cd acc
  -- a heading: its id is the head of `assignFrom`, and the only pair that may join `acc` carries it
  case case4 ih | case6 ih => exact fun hx => (ih hx).imp_right (List.mem_cons_of_mem _)
  case case5 ih =>
    intro hx
    rcases ih hx with h | h
    · exact (List.mem_append.1 h).imp_right fun h => by rw [List.mem_singleton.1 h]; exact List.mem_cons_self
    · exact .inr (List.mem_cons_of_mem _ h)
  all_goals simp_all [headingBases]

end SnootyVerif.Refs
