import SnootyVerif.Model.Escape
/-! Lemmas for `Model/Escape.lean`: text without the character an operation looks for passes unchanged;
`escape2null` is undone by restoring; the explicit-title recogniser on `label <target>`. -/
namespace SnootyVerif.Escape

theorem escape2null_noBackslash (t : Str) (h : '\\' ∉ t) : escape2null t = t := by
  fun_induction escape2null t <;> simp_all

theorem remove2_noA (a b : Char) (t : Str) (h : a ∉ t) : remove2 a b t = t := by
  fun_induction remove2 a b t <;> simp_all

theorem dropBefore_noA (a b : Char) (t : Str) (h : a ∉ t) : dropBefore a b t = t := by
  fun_induction dropBefore a b t <;> simp_all

theorem remove1_noA (a : Char) (t : Str) (h : a ∉ t) : remove1 a t = t :=
  List.filter_eq_self.2 fun c hc => by simpa using fun e : c = a => h (e ▸ hc)

theorem replace1_noA (a r : Char) (t : Str) (h : a ∉ t) : replace1 a r t = t :=
  (List.map_congr_left fun c hc => if_neg fun e : c = a => h (e ▸ hc)).trans (List.map_id' t)

theorem unescape_noNUL (t : Str) (restore : Bool) (h : NUL ∉ t) : unescape t restore = t := by
  cases restore
  · simp only [unescape, Bool.false_eq_true, if_false]
    rw [remove2_noA _ _ t h, remove2_noA _ _ t h, remove1_noA _ t h]
  · exact replace1_noA _ _ t h

theorem unescapeBackslashes_noNUL (t : Str) (h : NUL ∉ t) : unescapeBackslashes t = t := by
  unfold unescapeBackslashes
  rw [dropBefore_noA _ _ t h, dropBefore_noA _ _ t h, dropBefore_noA _ _ t h, replace1_noA _ _ t h]

/-- restoring mode is the inverse of `escape2null` on NUL-free text -/
theorem restore_escape2null (t : Str) (h : NUL ∉ t) : replace1 NUL '\\' (escape2null t) = t := by
  -- `NUL ∉ c :: _` simplifies to `¬NUL = c`, the `if`s of `replace1` ask for `c = NUL` (plain `eq_comm` would loop)
  fun_induction escape2null t <;> simp_all [replace1, eq_comm (a := NUL)]

/-- the first unescaped `<`: no `<` in front of it, and the character before it (`p` at the very start) is not NUL -/
theorem findLt_append (pre rest : Str) (h : '<' ∉ pre) :
    ∀ p, pre.getLast?.or p ≠ some NUL → findLt p (pre ++ '<' :: rest) = some pre.length := by
  induction pre with
  | nil => intro p hp; simpa [findLt] using hp
  | cons c cs ih =>
    intro p hp
    simp only [List.mem_cons, not_or] at h
    rw [List.getLast?_cons, Option.some_or, ← Option.or_some] at hp
    simp [findLt, Ne.symm h.1, ih h.2 (some c) hp]

/-- `rstrip` removes a trailing run of whitespace and stops at the first other character -/
theorem rstrip_append (isSpace : Char → Bool) (label ws : Str) (hws : ∀ c ∈ ws, isSpace c = true)
    (hl : ∀ c, label.getLast? = some c → isSpace c = false) :
    rstrip isSpace (label ++ ws) = label := by
  have hd : label.reverse.dropWhile isSpace = label.reverse := by
    cases hr : label.reverse with
    | nil => rfl
    | cons c cs =>
      exact List.dropWhile_cons_of_neg (by simp [hl c (by rw [List.getLast?_eq_head?_reverse, hr]; rfl)])
  rw [rstrip, List.reverse_append, List.dropWhile_append_of_pos (by simpa using hws), hd, List.reverse_reverse]

/-- `pre<target>` where `pre` has no `<` and does not end in NUL: the final `>` is the closing bracket, the label is
`pre` without its trailing whitespace, the target is what lies between the brackets (it may contain `<` and `>`). -/
theorem explicitTitle_split (isSpace : Char → Bool) (pre target : Str) (hlt : '<' ∉ pre)
    (hn : pre.getLast? ≠ some NUL) :
    explicitTitle isSpace (pre ++ '<' :: (target ++ ['>'])) = some (rstrip isSpace pre, target) := by
  have hc : closePos (pre ++ '<' :: (target ++ ['>'])) = some (pre ++ '<' :: target).length := by
    simp [closePos, List.getLast?_append, List.getLast?_cons]
  have ht : (pre ++ '<' :: (target ++ ['>'])).take (pre ++ '<' :: target).length = pre ++ '<' :: target := by
    rw [← List.cons_append, ← List.append_assoc, List.take_left]
  simp only [explicitTitle, hc, ht, findLt_append pre target hlt none (by simpa using hn), List.take_left]
  rw [← List.singleton_append (l := target), ← List.append_assoc, List.drop_left' (by simp)]

end SnootyVerif.Escape
