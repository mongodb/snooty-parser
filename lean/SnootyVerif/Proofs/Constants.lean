import SnootyVerif.Model.Constants

/-! Helper lemmas for C16 (`render_constants` model). -/
namespace SnootyVerif.Constants

theorem substitute_diags (env : List (String × String)) (segs : List Seg) :
    (substitute env segs).2 = (refs segs).filter (fun n => (env.lookup n).isNone) := by
  induction segs with
  | nil => rfl
  | cons seg r ih =>
    cases seg with
    | lit s => simpa [substitute, refs] using ih
    | ref n =>
      simp only [substitute, refs]
      cases h : env.lookup n <;> simp [List.filter, h, ih]

theorem renderFrom_append (env : List (String × String)) (pre rest : List (String × List Seg)) :
    renderFrom env (pre ++ rest) =
      ((renderFrom (renderFrom env pre).1 rest).1, (renderFrom env pre).2 ++ (renderFrom (renderFrom env pre).1 rest).2) := by
  induction pre generalizing env with
  | nil => simp [renderFrom]
  | cons kv pre ih => simp only [List.cons_append, renderFrom, ih, List.append_assoc]

/-- rendering only ever appends to the dict built so far -/
theorem renderFrom_extends (env : List (String × String)) (tbl : List (String × List Seg)) :
    ∃ tail, (renderFrom env tbl).1 = env ++ tail := by
  induction tbl generalizing env with
  | nil => exact ⟨[], by simp [renderFrom]⟩
  | cons kv rest ih =>
    obtain ⟨tail, ht⟩ := ih (env ++ [(kv.1, (substitute env kv.2).1)])
    exact ⟨(kv.1, (substitute env kv.2).1) :: tail, by simp [renderFrom, ht]⟩

/-- an entry is expanded against what the entries before it were expanded to, whatever follows -/
theorem renderFrom_entry (env : List (String × String)) (pre post : List (String × List Seg))
    (k : String) (segs : List Seg) :
    ∃ tail, (renderFrom env (pre ++ (k, segs) :: post)).1 =
      (renderFrom env pre).1 ++ (k, (substitute (renderFrom env pre).1 segs).1) :: tail := by
  rw [renderFrom_append]
  simp only [renderFrom]
  obtain ⟨tail, ht⟩ := renderFrom_extends
    ((renderFrom env pre).1 ++ [(k, (substitute (renderFrom env pre).1 segs).1)]) post
  exact ⟨tail, by rw [ht]; simp⟩

end SnootyVerif.Constants
