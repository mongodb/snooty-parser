import SnootyVerif.Model.Giza
/-! Helper lemmas for property C18 (Giza YAML). -/
namespace SnootyVerif.Giza

theorem spanName_length (p : Char → Bool) (t : Text) :
    (spanName p t).1.length + (spanName p t).2.length = t.length := by
  induction t with
  | nil => rfl
  | cons c cs ih =>
    unfold spanName
    split
    · simp; omega
    · simp

theorem spanName_run (p : Char → Bool) (k rest : Text) (stop : Char)
    (hk : ∀ c ∈ k, p c = true) (hs : p stop = false) :
    spanName p (k ++ stop :: rest) = (k, stop :: rest) := by
  induction k with
  | nil => simp [spanName, hs]
  | cons c cs ih =>
    simp [spanName, hk c (by simp), ih (fun x hx => hk x (by simp [hx]))]

theorem matchAt_length {p : Char → Bool} {t nm rest : Text} (h : matchAt p t = some (nm, rest)) :
    rest.length < t.length := by
  unfold matchAt at h
  split at h
  · rename_i r
    have hl := spanName_length p r
    split at h <;> cases h
    rename_i heq
    simp [heq] at hl ⊢
    omega
  · cases h

theorem substAux_fuel (p : Char → Bool) (env : Text → Option Text) (f g : Nat) (t : Text)
    (hf : t.length ≤ f) (hg : t.length ≤ g) : substAux p env f t = substAux p env g t := by
  induction f generalizing g t with
  | zero =>
    obtain rfl := List.eq_nil_of_length_eq_zero (Nat.le_zero.mp hf)
    cases g <;> rfl
  | succ f ih =>
    match t, g with
    | [], g => cases g <;> rfl
    | c :: cs, g + 1 =>
      simp only [List.length_cons, Nat.add_le_add_iff_right] at hf hg
      rw [substAux, substAux]
      cases hm : matchAt p (c :: cs) with
      | none => simp only [ih g cs hf hg]
      | some x =>
        have hl := matchAt_length hm
        simp only [List.length_cons] at hl
        simp only [ih g x.2 (by omega) (by omega)]

theorem substituteText_nil (p : Char → Bool) (env : Text → Option Text) :
    substituteText p env [] = ([], []) := rfl

/-- the scan as a recursion on the text, without the fuel -/
theorem substituteText_cons (p : Char → Bool) (env : Text → Option Text) (c : Char) (cs : Text) :
    substituteText p env (c :: cs) =
      match matchAt p (c :: cs) with
      | some (nm, rest) =>
        match env nm with
        | some v => (v ++ (substituteText p env rest).1, (substituteText p env rest).2)
        | none => ((substituteText p env rest).1, Diag.unknownSubstitution nm :: (substituteText p env rest).2)
      | none => (c :: (substituteText p env cs).1, (substituteText p env cs).2) := by
  simp only [substituteText, List.length_cons]
  rw [substAux]
  cases hm : matchAt p (c :: cs) with
  | none => rfl
  | some x =>
    have hl := matchAt_length hm
    simp only [List.length_cons] at hl
    simp only [substAux_fuel p env cs.length x.2.length x.2 (by omega) (Nat.le_refl _)]
    cases env x.1 <;> rfl

theorem matchAt_not_brace (p : Char → Bool) (c : Char) (cs : Text) (h : c ≠ '{') :
    matchAt p (c :: cs) = none := by
  unfold matchAt
  split
  · rename_i heq
    cases heq
    exact absurd rfl h
  · rfl

theorem substituteText_cons_other (p : Char → Bool) (env : Text → Option Text) (c : Char) (cs : Text)
    (h : c ≠ '{') :
    substituteText p env (c :: cs) = (c :: (substituteText p env cs).1, (substituteText p env cs).2) := by
  rw [substituteText_cons, matchAt_not_brace p c cs h]

theorem substituteText_append (p : Char → Bool) (env : Text → Option Text) (pre t : Text)
    (hpre : ∀ c ∈ pre, c ≠ '{') :
    substituteText p env (pre ++ t) = (pre ++ (substituteText p env t).1, (substituteText p env t).2) := by
  induction pre with
  | nil => rfl
  | cons c cs ih =>
    rw [List.cons_append, substituteText_cons_other p env c _ (hpre c (by simp)), ih (fun x hx => hpre x (by simp [hx]))]
    rfl

theorem matchAt_placeholder (p : Char → Bool) (k post : Text) (hne : k ≠ [])
    (hk : ∀ c ∈ k, p c = true) (hB : p '}' = false) :
    matchAt p ('{' :: '{' :: (k ++ '}' :: '}' :: post)) = some (k, post) := by
  cases k with
  | nil => exact absurd rfl hne
  | cons a as =>
    unfold matchAt
    simp only [spanName_run p (a :: as) ('}' :: post) '}' hk hB]

theorem substituteText_placeholder (p : Char → Bool) (env : Text → Option Text) (k post : Text)
    (hne : k ≠ []) (hk : ∀ c ∈ k, p c = true) (hB : p '}' = false) :
    substituteText p env ('{' :: '{' :: (k ++ '}' :: '}' :: post)) =
      match env k with
      | some v => (v ++ (substituteText p env post).1, (substituteText p env post).2)
      | none => ((substituteText p env post).1, Diag.unknownSubstitution k :: (substituteText p env post).2) := by
  rw [substituteText_cons, matchAt_placeholder p k post hne hk hB]

theorem addMissing_lookup (k : Text) (ps acc : Repl) :
    (addMissing acc ps).lookup k = (acc.lookup k).or (ps.lookup k) := by
  induction ps generalizing acc with
  | nil => simp [addMissing]
  | cons kv ps ih =>
    rw [addMissing]
    split
    · rename_i hsome
      rw [ih, List.lookup_cons]
      cases hk : acc.lookup k with
      | some v => rfl
      | none =>
        -- the skipped pair is not `k`'s, since `acc` defines its key and not `k`
        have : (k == kv.1) = false := by
          cases hkk : k == kv.1 with
          | false => rfl
          | true => rw [← eq_of_beq hkk, hk] at hsome; cases hsome
        simp [this]
    · rw [ih, List.lookup_append, Option.or_assoc, ← List.lookup_append]; rfl

theorem mergeFields_get (c p : List (Option Val)) (i : Nat) :
    ((mergeFields c p)[i]?).join = ((c[i]?).join).or ((p[i]?).join) := by
  fun_induction mergeFields c p generalizing i with
  | case1 => simp
  | case2 => simp
  | case3 c cs p ps ih =>
    cases i with
    | zero => cases c <;> rfl
    | succ i => exact ih i

theorem fixRef_fields (e : Entry) : (fixRef e).fields = e.fields := by
  unfold fixRef; split <;> rfl

theorem fixRef_replacement (e : Entry) : (fixRef e).replacement = e.replacement := by
  unfold fixRef; split <;> rfl

theorem fixRef_ref_isSome (e : Entry) : ∃ r, (fixRef e).ref = some r := by
  unfold fixRef; split
  · exact ⟨[], rfl⟩
  · rename_i r h; exact ⟨r, h⟩

theorem inheritFrom_ref (o : Entry) (p : Option Entry) : (inheritFrom o p).ref = o.ref := by
  cases p <;> rfl

theorem fixRef_truthy {e : Entry} (h : truthy e.ref = true) : fixRef e = e := by
  unfold fixRef; split
  · rename_i hn; rw [hn] at h; cases h
  · rfl

theorem fieldAt_inherit_none (o : Entry) (i : Nat) : fieldAt (inheritFrom o none) i = fieldAt o i := rfl

theorem fieldAt_inherit_some (o p : Entry) (i : Nat) :
    fieldAt (inheritFrom o (some p)) i = (fieldAt o i).or (fieldAt p i) :=
  mergeFields_get o.fields p.fields i

theorem replAt_inherit_none (o : Entry) (k : Text) : replAt (inheritFrom o none) k = replAt o k := by
  simp only [replAt, inheritFrom]
  cases o.replacement <;> rfl

theorem replAt_inherit_some (o p : Entry) (k : Text) :
    replAt (inheritFrom o (some p)) k = (replAt o k).or (replAt p k) := by
  simp only [replAt, inheritFrom]
  cases p.replacement <;> cases o.replacement <;> simp [addMissing_lookup]

theorem firstSome_single {α : Type} (x : Option α) : firstSome [x] = x := by
  cases x <;> rfl

theorem firstSome_cons {α : Type} (x : Option α) (xs : List (Option α)) :
    firstSome (x :: xs) = x.or (firstSome xs) := by
  cases x <;> rfl

theorem lookup_mem {reg : Registry} {f : String} {seq : List Entry} (h : reg.lookup f = some seq) :
    (f, seq) ∈ reg := by
  obtain ⟨l₁, l₂, rfl, _⟩ := List.lookup_eq_some_iff.mp h
  simp

theorem findParent_spec {seq : List Entry} {r : Text} {par : Entry} (h : findParent seq r = some par) :
    par ∈ seq ∧ getRef par = some r :=
  ⟨List.mem_of_find?_eq_some h, by simpa using List.find?_some h⟩

theorem mem_allKeys {reg : Registry} {f : String} {seq : List Entry} {r : Text} {par : Entry}
    (h1 : reg.lookup f = some seq) (h2 : findParent seq r = some par) : (f, r) ∈ allKeys reg := by
  obtain ⟨hp, hr⟩ := findParent_spec h2
  exact List.mem_flatMap.mpr ⟨(f, seq), lookup_mem h1, List.mem_filterMap.mpr ⟨par, hp, by simp [hr]⟩⟩

theorem remaining_lt {reg : Registry} {cs : List Key} {k : Key} (hk : k ∈ allKeys reg) (hn : k ∉ cs) :
    remaining reg (k :: cs) < remaining reg cs := by
  -- the keys still free after `k` joins `cs` are those free before, without `k`
  have : (allKeys reg).filter (fun x => !(k :: cs).contains x) =
      ((allKeys reg).filter (fun x => !cs.contains x)).filter (fun x => decide (x ≠ k)) := by
    rw [List.filter_filter]; congr; funext x; simp
  unfold remaining
  rw [this]
  exact List.length_filter_lt_length_iff_exists.mpr ⟨k, List.mem_filter.mpr ⟨hk, by simpa using hn⟩, by simp⟩

theorem remaining_lt_topFuel (reg : Registry) (cs : List Key) : remaining reg cs < topFuel reg :=
  Nat.lt_succ_of_le (List.length_filter_le _ _)

/-! The inductions below follow `resolve` itself (`fun_induction`).  Its cases: 1 fuel exhausted; 2 no parent pointer;
3 no such file; 4 no such ref in the file; 5 the key is in the cycle set; 6 / 7 the parent's own `resolve` fails /
returns.  Only 7 (and 6, which never happens with enough fuel) goes on along the chain. -/

theorem resolve_fuel_sufficient (reg : Registry) (fuel : Nat) (cs : List Key) (e : Entry) :
    remaining reg cs < fuel → ∃ r, resolve reg fuel cs e = .ok r := by
  fun_induction resolve reg fuel cs e with
  | case1 => omega
  | case6 n cs e pid hp seq hl par hf hnot x hx ih =>
    -- the parent's run cannot have failed: the key followed took one off the measure
    intro h
    have := remaining_lt (mem_allKeys hl hf) hnot
    obtain ⟨r, hr⟩ := ih (by omega)
    simp [hx] at hr
  | _ => exact fun _ => ⟨_, rfl⟩

theorem fresh_cons {k : Key} {ks cs : List Key} (hk : k ∉ cs) :
    ((k :: ks).Nodup ∧ ∀ x ∈ k :: ks, x ∉ cs) ↔ (ks.Nodup ∧ ∀ x ∈ ks, x ∉ k :: cs) := by
  -- `k ∉ ks` on the left is `∀ x ∈ ks, x ≠ k` on the right
  have : (∀ x ∈ ks, x ∉ k :: cs) ↔ k ∉ ks ∧ ∀ x ∈ ks, x ∉ cs := by
    simp only [List.mem_cons, not_or, imp_and, forall_and, List.forall_mem_ne']
  rw [this, List.nodup_cons, List.forall_mem_cons]
  exact ⟨fun ⟨⟨h1, h2⟩, _, h3⟩ => ⟨h2, h1, h3⟩, fun ⟨h2, h1, h3⟩ => ⟨⟨h1, h2⟩, hk, h3⟩⟩

theorem resolve_cycle_iff {reg : Registry} {n : Nat} {cs : List Key} {e : Entry} {r : Resolved}
    (h : resolve reg n cs e = .ok r) :
    Diag.inheritanceCycle ∈ r.diags ↔ ¬ ((chainKeys reg n e).Nodup ∧ ∀ k ∈ chainKeys reg n e, k ∉ cs) := by
  fun_induction resolve reg n cs e generalizing r with
  | case1 | case6 => cases h
  | case7 n cs e pid hp seq hl par hf obj hnot r' hr' =>
    rename_i ih
    cases h
    simp only [chainKeys, hp, hl, hf, fresh_cons hnot, ih hr']
  -- the walk ends here: no key is followed (2-4), or the one followed is in `cs` (5)
  | _ => cases h; simp [chainKeys, *]

theorem resolve_cycle_top {reg : Registry} {n : Nat} {e : Entry} {r : Resolved} (h : resolve reg n [] e = .ok r) :
    Diag.inheritanceCycle ∈ r.diags ↔ ¬ (chainKeys reg n e).Nodup := by
  simpa using resolve_cycle_iff h

/-- Whatever `inheritFrom` merges child-first (`hstep`) and that does not look at `ref` comes out of a run that reports
no cycle as the first value set along `e :: parents`; used for `fieldAt · i` and `replAt · k`.  `hstep` is stated with
`Option.or`: a `match` on `Option α` here and one on `Option Val` in the lemma supplied are different matchers and
do not unify. -/
theorem resolve_firstSome {α : Type} (get : Entry → Option α)
    (hroot : ∀ o, get (inheritFrom o none) = get o)
    (hstep : ∀ o p, get (inheritFrom o (some p)) = (get o).or (get p))
    (href : ∀ o x, get { o with ref := x } = get o)
    {reg : Registry} {n : Nat} {cs : List Key} {e : Entry} {r : Resolved} (h : resolve reg n cs e = .ok r)
    (hnc : Diag.inheritanceCycle ∉ r.diags) : get r.entry = firstSome ((e :: chain reg n e).map get) := by
  have hfix (o : Entry) : get (fixRef o) = get o := by
    unfold fixRef; split
    · exact href o _
    · rfl
  fun_induction resolve reg n cs e generalizing r with
  | case1 | case6 => cases h
  | case2 n cs e hp => cases h; simp only [chain, hp, List.map, firstSome_single, hroot, hfix]
  | case5 => cases h; simp at hnc
  | case7 n cs e pid hp seq hl par hf obj hnot r' hr' =>
    rename_i ih
    cases h
    have hobj : get obj = get e := by
      unfold obj; split
      · rfl
      · exact href e _
    simp only [chain, hp, hl, hf]
    rw [List.map_cons, firstSome_cons, ← ih hr' hnc, hstep, hfix, hobj]
  -- the pointer dangles: the entry comes back as it is, and it has no parents
  | _ => cases h; simp only [chain, List.map, firstSome_single, *]

theorem resolve_ref {reg : Registry} {n : Nat} {cs : List Key} {e : Entry} {r : Resolved}
    (ht : truthy e.ref = true) : resolve reg n cs e = .ok r → r.entry.ref = e.ref := by
  fun_cases resolve reg n cs e <;> intro h <;> cases h
  all_goals simp +zetaDelta [inheritFrom_ref, fixRef_truthy, ht]

/-- `resolve` unfolded once, its two lookups read as `answer reg p`: the form in which runs against two registries
compare (`resolve_transfer`) -/
theorem resolve_succ (reg : Registry) (n : Nat) (cs : List Key) (e : Entry) :
    resolve reg (n + 1) cs e =
      match parentInfo e with
      | none => .ok ⟨true, inheritFrom (fixRef e) none, []⟩
      | some p =>
        match answer reg p with
        | none => .ok ⟨false, e, [.cannotOpenFile p.file]⟩
        | some none => .ok ⟨false, e, [.failedToInheritRef]⟩
        | some (some par) =>
          let obj := if truthy e.ref then e else { e with ref := getRef par }
          if (p.file, p.ref) ∈ cs then .ok ⟨false, obj, [.inheritanceCycle]⟩
          else match resolve reg n ((p.file, p.ref) :: cs) par with
            | .error x => .error x
            | .ok r => .ok ⟨true, inheritFrom (fixRef obj) (some r.entry), r.diags⟩ := by
  rw [resolve]
  cases parentInfo e with
  | none => rfl
  | some p =>
    simp only [answer]
    cases reg.lookup p.file with
    | none => rfl
    | some seq => simp only; cases findParent seq p.ref <;> rfl

theorem ptrs_succ (reg : Registry) (n : Nat) (e : Entry) :
    ptrs reg (n + 1) e =
      match parentInfo e with
      | none => []
      | some p => p :: match answer reg p with
        | some (some par) => ptrs reg n par
        | _ => [] := by
  rw [ptrs]
  cases parentInfo e with
  | none => rfl
  | some p =>
    simp only [answer]
    cases reg.lookup p.file with
    | none => rfl
    | some seq => simp only; cases findParent seq p.ref <;> rfl

theorem resolve_transfer {reg reg' : Registry} {n m : Nat} {cs : List Key} {e : Entry} {r : Resolved}
    (h : resolve reg n cs e = .ok r) (hle : n ≤ m)
    (ha : ∀ p ∈ ptrs reg n e, answer reg p = answer reg' p) : resolve reg' m cs e = .ok r := by
  induction n generalizing m cs e r with
  | zero => cases h
  | succ n ih =>
    obtain _ | m := m
    · cases hle
    rw [resolve_succ] at h ⊢
    rw [ptrs_succ] at ha
    cases hp : parentInfo e with
    | none => rwa [hp] at h
    | some p =>
      simp only [hp] at h ha ⊢
      rw [← ha p (List.mem_cons_self ..)]
      rcases hans : answer reg p with _ | _ | par <;> simp only [hans] at h ha ⊢
      · exact h
      · exact h
      by_cases hin : (p.file, p.ref) ∈ cs <;> simp only [hin, if_true, if_false] at h ⊢
      · exact h
      · cases hr : resolve reg n ((p.file, p.ref) :: cs) par with
        | error x => rw [hr] at h; cases h
        | ok r' =>
          rw [ih hr (Nat.le_of_succ_le_succ hle) fun q hq => ha q (List.mem_cons_of_mem _ hq)]
          rwa [hr] at h

theorem finishTop_ref (p : Char → Bool) (c : Repl) (refs : List Text) (m : Entry) (ds : List Diag) :
    (finishTop p c refs m ds).entry.ref = m.ref := by
  unfold finishTop
  split
  · rfl
  · split <;> rfl

theorem finishTop_entry_indep (p : Char → Bool) (c : Repl) (refs refs' : List Text) (m : Entry) (ds ds' : List Diag) :
    (finishTop p c refs m ds).entry = (finishTop p c refs' m ds').entry := by
  unfold finishTop
  split
  · rfl
  · split <;> rfl

theorem finishTop_dup (p : Char → Bool) (c : Repl) {refs : List Text} {m : Entry} (ds : List Diag)
    {r : Text} (hr : m.ref = some r) (hne : r ≠ []) (hin : r ∈ refs) :
    Diag.refAlreadyExists r ∈ (finishTop p c refs m ds).diags := by
  simp only [finishTop, hr]
  split <;> simp [dupDiag, hin, hne]

theorem mem_addRef (refs : List Text) (r x : Text) : x ∈ addRef refs r ↔ x = r ∨ x ∈ refs := by
  unfold addRef
  split
  · exact ⟨Or.inr, fun h => h.elim (· ▸ ‹r ∈ refs›) id⟩
  · exact List.mem_cons

theorem mem_finishTop_refs (p : Char → Bool) (c : Repl) (refs : List Text) (m : Entry) (ds : List Diag) (x : Text) :
    x ∈ (finishTop p c refs m ds).refs ↔ m.ref = some x ∨ x ∈ refs := by
  unfold finishTop
  split
  · simp [*]
  · split <;> simp [mem_addRef, *, eq_comm]

theorem finishTop_refless (p : Char → Bool) (c : Repl) (refs : List Text) (m : Entry) (ds : List Diag)
    (hr : m.ref = some []) :
    finishTop p c refs m ds =
      ⟨{ m with fields := (substFields p (envOf c m.replacement) m.fields).1 },
       ds ++ (substFields p (envOf c m.replacement) m.fields).2, addRef refs []⟩ := by
  simp [finishTop, hr, wantsSubst, dupDiag]

theorem finishTop_diags_prefix (p : Char → Bool) (c : Repl) (refs : List Text) (m : Entry) {ds : List Diag} {d : Diag}
    (hd : d ∈ ds) : d ∈ (finishTop p c refs m ds).diags := by
  unfold finishTop
  split
  · exact hd
  · split <;> simp [hd]

theorem resolve_top (reg : Registry) (e : Entry) : ∃ res, resolve reg (topFuel reg) [] e = .ok res :=
  resolve_fuel_sufficient reg _ [] e (remaining_lt_topFuel reg [])

theorem reifyEntry_of_resolve (p : Char → Bool) (c : Repl) {reg : Registry} (refs : List Text) {e : Entry}
    {res : Resolved} (hres : resolve reg (topFuel reg) [] e = .ok res) :
    reifyEntry p c reg refs e =
      .ok (if res.merged then finishTop p c refs res.entry res.diags else ⟨res.entry, res.diags, refs⟩) := by
  simp only [reifyEntry, hres]
  split <;> rfl

theorem reifyEntry_total (p : Char → Bool) (c : Repl) (reg : Registry) (refs : List Text) (e : Entry) :
    ∃ r, reifyEntry p c reg refs e = .ok r :=
  let ⟨_, hres⟩ := resolve_top reg e
  ⟨_, reifyEntry_of_resolve p c refs hres⟩

/-- value of one entry reified on its own (empty refs set) -/
def valueOf (p : Char → Bool) (c : Repl) (reg : Registry) (e : Entry) : Entry :=
  match reifyEntry p c reg [] e with
  | .ok r => r.entry
  | .error _ => e

theorem reifyEntry_refs {p : Char → Bool} {c : Repl} {reg : Registry} {refs : List Text} {e : Entry} {r : Reified}
    (h : reifyEntry p c reg refs e = .ok r) : r.entry = valueOf p c reg e ∧ ∀ x ∈ refs, x ∈ r.refs := by
  obtain ⟨res, hres⟩ := resolve_top reg e
  rw [reifyEntry_of_resolve p c refs hres] at h
  cases h
  rw [valueOf, reifyEntry_of_resolve p c [] hres]
  split
  · exact ⟨finishTop_entry_indep .., fun x hx => (mem_finishTop_refs ..).2 (.inr hx)⟩
  · exact ⟨rfl, fun _ hx => hx⟩

theorem valueOf_ref (p : Char → Bool) (c : Repl) (reg : Registry) (e : Entry) (ht : truthy e.ref = true) :
    (valueOf p c reg e).ref = e.ref := by
  obtain ⟨res, hres⟩ := resolve_top reg e
  have := resolve_ref ht hres
  simp only [valueOf, reifyEntry_of_resolve p c [] hres]
  split
  · rwa [finishTop_ref]
  · exact this

theorem valueOf_ref_isSome (p : Char → Bool) (c : Repl) (reg : Registry) (e : Entry) (ht : truthy e.ref = true) :
    ∃ x, (valueOf p c reg e).ref = some x := by
  rw [valueOf_ref p c reg e ht]
  cases hx : e.ref with
  | none => rw [hx] at ht; cases ht
  | some x => exact ⟨x, rfl⟩

theorem reifyFile_cons {p : Char → Bool} {c : Repl} {reg : Registry} {refs : List Text} {e : Entry} {es out : List Entry}
    {ds : List Diag} (h : reifyFile p c reg refs (e :: es) = .ok (out, ds)) :
    ∃ r o d, reifyEntry p c reg refs e = .ok r ∧ reifyFile p c reg r.refs es = .ok (o, d) ∧
      out = r.entry :: o ∧ ds = r.diags ++ d := by
  rw [reifyFile] at h
  split at h
  · cases h
  · rename_i r hr
    split at h
    · cases h
    · rename_i o d ho
      cases h
      exact ⟨r, o, d, hr, ho, rfl, rfl⟩

theorem reifyFile_total (p : Char → Bool) (c : Repl) (reg : Registry) (es : List Entry) (refs : List Text) :
    ∃ ds, reifyFile p c reg refs es = .ok (es.map (valueOf p c reg), ds) := by
  induction es generalizing refs with
  | nil => exact ⟨[], rfl⟩
  | cons e es ih =>
    obtain ⟨r, hr⟩ := reifyEntry_total p c reg refs e
    obtain ⟨ds, ho⟩ := ih r.refs
    exact ⟨r.diags ++ ds, by simp [reifyFile, hr, ho, (reifyEntry_refs hr).1]⟩

theorem reifyFile_values {p : Char → Bool} {c : Repl} {reg : Registry} {es : List Entry} {refs : List Text}
    {out : List Entry} {ds : List Diag} (h : reifyFile p c reg refs es = .ok (out, ds)) :
    out = es.map (valueOf p c reg) := by
  obtain ⟨ds', h'⟩ := reifyFile_total p c reg es refs
  rw [h'] at h
  cases h
  rfl

theorem reifyFile_dup {p : Char → Bool} {c : Repl} {reg : Registry} {es : List Entry} {refs : List Text}
    {out : List Entry} {ds : List Diag} (h : reifyFile p c reg refs es = .ok (out, ds))
    {e : Entry} {res : Resolved} {r : Text} (he : e ∈ es) (hres : resolve reg (topFuel reg) [] e = .ok res)
    (hm : res.merged = true) (href : res.entry.ref = some r) (hne : r ≠ []) (hin : r ∈ refs) :
    Diag.refAlreadyExists r ∈ ds := by
  induction es generalizing refs out ds with
  | nil => cases he
  | cons e0 es ih =>
    obtain ⟨r0, o, d, hr, ho, rfl, rfl⟩ := reifyFile_cons h
    rcases List.mem_cons.mp he with rfl | hmem
    · rw [reifyEntry_of_resolve p c refs hres, hm] at hr
      cases hr
      exact List.mem_append_left _ (finishTop_dup p c res.diags href hne hin)
    · exact List.mem_append_right _ (ih ho hmem ((reifyEntry_refs hr).2 r hin))

theorem reifyEntry_adds_ref {p : Char → Bool} {c : Repl} {reg : Registry} {refs : List Text} {e : Entry}
    {res : Resolved} {r : Text} {r0 : Reified}
    (hres : resolve reg (topFuel reg) [] e = .ok res) (hm : res.merged = true) (href : res.entry.ref = some r)
    (h : reifyEntry p c reg refs e = .ok r0) : r ∈ r0.refs := by
  rw [reifyEntry_of_resolve p c refs hres, hm] at h
  cases h
  exact (mem_finishTop_refs ..).2 (.inl href)

theorem namedPages_ok (dir : String) (rd : Entry → List Diag) (es : List Entry)
    (h : ∀ e ∈ es, ∃ x, e.ref = some x) :
    ∃ ps, namedPages dir rd es = .ok ps ∧
      ps.length = (es.filter (fun e => match e.ref with | some r => !startsUnderscore r | none => false)).length := by
  induction es with
  | nil => exact ⟨[], rfl, rfl⟩
  | cons e es ih =>
    obtain ⟨x, hx⟩ := h e List.mem_cons_self
    obtain ⟨ps, hps, hlen⟩ := ih fun e' he' => h e' (List.mem_cons_of_mem _ he')
    rw [namedPages]
    simp only [hx, hps, List.filter_cons]
    cases startsUnderscore x <;> simp [hlen]

end SnootyVerif.Giza
