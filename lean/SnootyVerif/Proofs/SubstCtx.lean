import SnootyVerif.Model.SubstCtx

namespace SnootyVerif.SubstCtx

theorem extractInline_ok (ns : List Node) : ∃ r, extractInline ns = .ok r := by
  unfold extractInline
  split
  · exact ⟨_, rfl⟩
  · next h =>
    split
    · cases h rfl
    · split <;> exact ⟨_, rfl⟩
    · exact ⟨_, rfl⟩

theorem extractInline_some {ns out : List Node} (h : extractInline ns = .ok (some out)) :
    (ns.all Node.isInline = true ∧ out = ns) ∨
    (ns.all Node.isInline = false ∧ ∃ id, ns = [.para id out] ∧ out.all Node.isInline = true) := by
  unfold extractInline at h
  split at h
  · next ha => cases h; exact .inl ⟨ha, rfl⟩
  · next ha =>
    split at h
    · cases h
    · next id cs =>
      split at h <;> cases h
      next hc => exact .inr ⟨Bool.eq_false_iff.2 ha, id, rfl, hc⟩
    · cases h

theorem extractInline_of_inline {ns : List Node} (h : ns.all Node.isInline = true) :
    extractInline ns = .ok (some ns) := by
  unfold extractInline; rw [if_pos h]

theorem extractInline_of_para {id : Nat} {cs : List Node} (h : cs.all Node.isInline = true) :
    extractInline [.para id cs] = .ok (some cs) := by
  unfold extractInline
  simp [Node.isInline, h]

theorem extractInline_none_of {ns : List Node} (h1 : ns.all Node.isInline = false)
    (h2 : ∀ id cs, ns = [.para id cs] → cs.all Node.isInline = false) : extractInline ns = .ok none := by
  unfold extractInline
  rw [if_neg (Bool.eq_false_iff.1 h1)]
  split
  · cases h1
  · next id cs => rw [if_neg (Bool.eq_false_iff.1 (h2 id cs rfl))]
  · rfl

/-- closing `current_paragraph` gives at most the one paragraph -/
theorem mem_flush {cur : List Node} {x : Node} (h : x ∈ if cur.isEmpty then [] else [Node.wrap cur]) :
    cur ≠ [] ∧ x = .wrap cur := by
  cases cur <;> simp at h
  exact ⟨List.cons_ne_nil _ _, h⟩

theorem unwrap_cons_of_nowrap {e : Node} (l : List Node) (h : e.isWrap = false) :
    unwrap (e :: l) = e :: unwrap l := by
  cases e <;> first | rfl | cases h

theorem unwrap_blockGo (ns : List Node) : ∀ cur, (∀ x ∈ ns, x.isWrap = false) →
    unwrap (blockGo cur ns) = cur ++ ns := by
  induction ns with
  | nil => intro cur _; cases cur <;> simp [blockGo, unwrap]
  | cons e rest ih =>
    intro cur hw
    obtain ⟨he, hrest⟩ := List.forall_mem_cons.1 hw
    simp only [blockGo]
    split
    · rw [ih _ hrest, List.append_assoc]; rfl
    · have := unwrap_cons_of_nowrap (blockGo [] rest) he
      cases cur <;> simp [unwrap, this, ih [] hrest]

theorem blockGo_no_inline (ns : List Node) : ∀ cur x, x ∈ blockGo cur ns → x.isInline = false := by
  induction ns with
  | nil => intro cur x hx; rw [(mem_flush hx).2]; rfl
  | cons e rest ih =>
    intro cur x hx
    simp only [blockGo] at hx
    split at hx
    · exact ih _ x hx
    · next he =>
      rcases List.mem_append.1 hx with h | h
      · rw [(mem_flush h).2]; rfl
      · rcases List.mem_cons.1 h with rfl | h
        · simpa using he
        · exact ih _ x h

theorem blockGo_wraps (ns : List Node) : ∀ cur, cur.all Node.isInline = true → (∀ x ∈ ns, x.isWrap = false) →
    ∀ cs, Node.wrap cs ∈ blockGo cur ns → cs ≠ [] ∧ cs.all Node.isInline = true := by
  induction ns with
  | nil =>
    intro cur hc _ cs hx
    obtain ⟨hne, h⟩ := mem_flush hx
    cases h; exact ⟨hne, hc⟩
  | cons e rest ih =>
    intro cur hc hw cs hx
    obtain ⟨he, hrest⟩ := List.forall_mem_cons.1 hw
    simp only [blockGo] at hx
    split at hx
    · next hi => exact ih _ (by simp [hc, hi]) hrest cs hx
    · rcases List.mem_append.1 hx with h | h
      · obtain ⟨hne, h⟩ := mem_flush h
        cases h; exact ⟨hne, hc⟩
      · rcases List.mem_cons.1 h with rfl | h
        · cases he
        · exact ih [] rfl hrest cs h

/-- the first node of `blockGo [] ns` is a created paragraph only if `ns` starts with an inline node -/
theorem blockGo_nil_head (ns : List Node) (hw : ∀ x ∈ ns, x.isWrap = false) :
    ∀ a t, blockGo [] ns = a :: t → a.isWrap = true → ∃ e r, ns = e :: r ∧ e.isInline = true := by
  intro a t h ha
  cases ns with
  | nil => cases h
  | cons e r =>
    by_cases he : e.isInline = true
    · exact ⟨e, r, rfl, he⟩
    · simp only [blockGo, he] at h
      cases h
      rw [hw a List.mem_cons_self] at ha
      cases ha

theorem noAdjacentWraps_cons_nowrap (a : Node) (l : List Node) (ha : a.isWrap = false)
    (hl : noAdjacentWraps l = true) : noAdjacentWraps (a :: l) = true := by
  cases l with
  | nil => rfl
  | cons b r => simp [noAdjacentWraps, ha, hl]

theorem blockGo_coalesced (ns : List Node) : ∀ cur, (∀ x ∈ ns, x.isWrap = false) →
    noAdjacentWraps (blockGo cur ns) = true := by
  induction ns with
  | nil => intro cur _; cases cur <;> rfl
  | cons e rest ih =>
    intro cur hw
    obtain ⟨he, hrest⟩ := List.forall_mem_cons.1 hw
    simp only [blockGo]
    split
    · exact ih _ hrest
    · have h1 := noAdjacentWraps_cons_nowrap e _ he (ih [] hrest)
      cases cur <;> simp [noAdjacentWraps, he, h1]

end SnootyVerif.SubstCtx
