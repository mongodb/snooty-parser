import SnootyVerif.Proofs.Subst

/-! The static kernel `expandStatic` (about which termination is proved) is what the general
executable walk `walkItems` computes on a page without definitions and include replacements. -/
namespace SnootyVerif.Subst

/-- parser-fresh items: references carry no children yet -/
def fresh : List Item → Bool
  | [] => true
  | .txt _ :: rest => fresh rest
  | .ref _ _ _ cs :: rest => cs.isEmpty && fresh rest

def freshEnv (env : Table) : Prop := ∀ k b, tget env k = some b → fresh b = true

/-- a handler state on a page without definitions / replacements, outside any definition -/
def Plain (st : St) : Prop := st.defs = [] ∧ st.stack = [] ∧ st.seen = none

def toDiags (file : String) : List SDiag → List Diag
  | [] => []
  | .circular _ l :: ds => ⟨file, .circular, l⟩ :: toDiags file ds
  | .unresolved _ _ :: ds => toDiags file ds

def toPending (file : String) : List SDiag → List (String × String × Nat)
  | [] => []
  | .circular _ _ :: ds => toPending file ds
  | .unresolved n l :: ds => (n, file, l) :: toPending file ds

theorem toDiags_append (f : String) (a b : List SDiag) : toDiags f (a ++ b) = toDiags f a ++ toDiags f b := by
  induction a with
  | nil => rfl
  | cons d a ih => cases d <;> simp [toDiags, ih]

theorem toPending_append (f : String) (a b : List SDiag) : toPending f (a ++ b) = toPending f a ++ toPending f b := by
  induction a with
  | nil => rfl
  | cons d a ih => cases d <;> simp [toPending, ih]

theorem lookup_plain (st : St) (hp : Plain st) (proj : Table) (name : String) :
    lookupOrder st.stack.head? st.defs proj name = tget proj name := by
  obtain ⟨h1, h2, _⟩ := hp
  simp [lookupOrder, h1, h2, tget]

/-- what the walk leaves behind: same state, diagnostics and queue extended -/
def After (st : St) (ds : List SDiag) : St :=
  { st with diags := st.diags ++ toDiags st.file ds, pending := st.pending ++ toPending st.file ds }

theorem after_nil (st : St) : After st [] = st := by
  simp [After, toDiags, toPending]

theorem after_after (st : St) (a b : List SDiag) : After (After st a) b = After st (a ++ b) := by
  simp [After, toDiags_append, toPending_append, St.file, List.append_assoc]

theorem after_circular (st : St) (name : String) (line : Nat) (ds : List SDiag) :
    After st (.circular name line :: ds)
      = After { st with diags := st.diags ++ [⟨st.file, .circular, line⟩] } ds := by
  simp [After, toDiags, toPending, St.file]

theorem after_unresolved (st : St) (name : String) (line : Nat) (ds : List SDiag) :
    After st (.unresolved name line :: ds)
      = After { st with pending := st.pending ++ [(name, st.file, line)] } ds := by
  simp [After, toDiags, toPending, St.file]

theorem plain_after (st : St) (ds : List SDiag) (h : Plain st) : Plain (After st ds) := h

/-- One level of the static kernel is one level of the walk, when `rec` is what the walk does one level down.
Every state the walk passes through is `Plain` and differs from `st` in `diags`, `pending` and `active` only. -/
theorem walk_of_level (proj : Table) (hf : freshEnv proj) (rec : SRec) (fuel : Nat)
    (hrec : ∀ (st : St) (body : List Item) (r : List Item × List SDiag), Plain st → fresh body = true →
      rec st.active body = some r → walkItems proj fuel st body = some (After st r.2, r.1))
    (items : List Item) : ∀ (st : St) (r : List Item × List SDiag), Plain st → fresh items = true →
      expandLevel proj rec st.active items = some r →
      walkItems proj (fuel + 1) st items = some (After st r.2, r.1) := by
  induction items with
  | nil => intro st r _ _ h; cases h; rw [walkItems_nil, after_nil]
  | cons it rest ih =>
    intro st r hp hfr h
    cases it with
    | txt s =>
      cases hr : expandLevel proj rec st.active rest <;> simp only [expandLevel, hr] at h <;> cases h
      simp [walkItems_txt, ih st _ hp hfr hr]
    | ref name line pend cs =>
      simp only [fresh, Bool.and_eq_true, List.isEmpty_iff] at hfr
      obtain ⟨rfl, hfr⟩ := hfr
      have hl := lookup_plain st hp proj name
      simp only [expandLevel] at h
      cases hc : st.active.contains name
      · cases hb : tget proj name with
        | none =>
          cases hr : expandLevel proj rec st.active rest <;>
            simp only [hc, hb, hr, Bool.false_eq_true, if_false] at h <;> cases h
          rw [walkItems_ref_pending hp.2.2 hc (hl.trans hb), walkItems_nil, after_unresolved]
          simp [ih { st with pending := st.pending ++ [(name, st.file, line)] } _ hp hfr hr]
        | some body =>
          rcases hk : rec (name :: st.active) body with _ | k <;>
            rcases hr : expandLevel proj rec st.active rest with _ | r' <;>
            simp only [hc, hb, hk, hr, Bool.false_eq_true, if_false] at h <;> cases h
          rw [walkItems_ref_found hp.2.2 hc (hl.trans hb),
            hrec { st with active := name :: st.active } body _ hp (hf name body hb) hk, ← after_after]
          -- leaving `name` restores the path
          show (walkItems proj (fuel + 1) (After st k.2) rest).map _ = _
          rw [ih (After st k.2) r' hp hfr hr]
          rfl
      · cases hr : expandLevel proj rec st.active rest <;>
          simp only [hc, hr, if_true] at h <;> cases h
        rw [walkItems_ref_active hp.2.2 hc, after_circular]
        simp [ih { st with diags := st.diags ++ [⟨st.file, .circular, line⟩] } _ hp hfr hr]

theorem walk_of_static (proj : Table) (hf : freshEnv proj) :
    ∀ (fuel : Nat) (st : St) (items : List Item) (r : List Item × List SDiag),
      Plain st → fresh items = true →
      expandStatic proj fuel st.active items = some r →
      walkItems proj fuel st items = some (After st r.2, r.1) := by
  intro fuel
  induction fuel with
  | zero => intro _ _ _ _ _ h; cases h
  | succ fuel ih => intro st items; exact walk_of_level proj hf _ fuel ih items st

end SnootyVerif.Subst
