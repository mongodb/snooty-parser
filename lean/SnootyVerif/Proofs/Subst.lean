import SnootyVerif.Model.Subst

namespace SnootyVerif.Subst

theorem tget_cons (p : String × Body) (t : Table) (k : String) :
    tget (p :: t) k = if p.1 = k then some p.2 else tget t k := by
  simp only [tget, List.find?_cons]
  cases h : p.1 == k <;> simp_all

theorem tget_tset (t : Table) (k k' : String) (v : Body) :
    tget (tset t k v) k' = if k = k' then some v else tget t k' := by
  induction t with
  | nil => simp [tset, tget]
  | cons p t ih =>
    simp only [tset, beq_iff_eq]
    by_cases h' : k = k'
    · subst h'; by_cases h : p.1 = k <;> simp [tget_cons, ih, h]
    · by_cases h : p.1 = k <;> simp [tget_cons, ih, h, h']

theorem tset_tset (t : Table) (k : String) (v w : Body) : tset (tset t k v) k w = tset t k w := by
  induction t with
  | nil => simp [tset]
  | cons p t ih => simp only [tset]; split <;> simp [tset, *]

theorem sroom_le (env : Table) (path : List String) (t : String) :
    sroom env (t :: path) ≤ sroom env path := by
  induction env with
  | nil => exact Nat.le_refl _
  | cons p ps ih =>
    simp only [sroom, List.contains_cons]
    cases path.contains p.1 <;> cases p.1 == t <;> simp <;> omega

theorem sroom_lt (env : Table) (path : List String) (t : String) (body : Body)
    (hl : tget env t = some body) (hs : path.contains t = false) :
    sroom env (t :: path) < sroom env path := by
  induction env with
  | nil => cases hl
  | cons p ps ih =>
    rw [tget_cons] at hl
    simp only [sroom, List.contains_cons]
    split at hl
    · next h =>
      have := sroom_le ps path t
      subst h
      rw [hs]
      simp
      omega
    · next h =>
      have := ih hl
      cases path.contains p.1 <;> simp [h] <;> omega

theorem expandLevel_isSome (env : Table) (rec : SRec) (path : List String)
    (hrec : ∀ t body, tget env t = some body → path.contains t = false → (rec (t :: path) body).isSome) :
    ∀ items : List Item, (expandLevel env rec path items).isSome := by
  intro items
  induction items with
  | nil => rfl
  | cons it rest ih =>
    obtain ⟨r, hr⟩ := Option.isSome_iff_exists.1 ih
    cases it with
    | txt s => simp [expandLevel, hr]
    | ref name line pend cs =>
      simp only [expandLevel, hr]
      cases hc : path.contains name
      · cases hb : tget env name with
        | none => rfl
        | some body =>
          obtain ⟨k, hk⟩ := Option.isSome_iff_exists.1 (hrec name body hb hc)
          simp [hk]
      · rfl

theorem expandStatic_isSome (env : Table) (fuel : Nat) : ∀ (path : List String) (items : List Item),
    sroom env path < fuel → (expandStatic env fuel path items).isSome := by
  induction fuel with
  | zero => intro _ _ h; cases h
  | succ fuel ih =>
    intro path items h
    exact expandLevel_isSome env _ path (fun t b hl hs =>
      ih _ b (by have := sroom_lt env path t b hl hs; omega)) items

theorem expandStaticOld_self (env : Table) (a s : String) (n : Nat)
    (h : tget env a = some [.txt s, .ref a n false []]) (fuel : Nat) :
    (∀ path l, expandStaticOld env fuel path [.ref a l false []] = none) ∧
    (∀ path, expandStaticOld env fuel path [.txt s, .ref a n false []] = none) := by
  induction fuel with
  | zero => exact ⟨fun _ _ => rfl, fun _ => rfl⟩
  | succ f ih =>
    -- a level enters the body again, with one unit of fuel less
    constructor <;> intros <;>
      simp only [expandStaticOld, expandLevel, List.contains_nil, h, ih.2, Bool.false_eq_true, if_false]

theorem walkItems_nil (proj : Table) (fuel : Nat) (st : St) : walkItems proj fuel st [] = some (st, []) := by
  cases fuel <;> simp [walkItems]

theorem walkItems_txt (proj : Table) (fuel : Nat) (st : St) (s : String) (rest : List Item) :
    walkItems proj fuel st (.txt s :: rest)
      = (walkItems proj fuel st rest).map fun r => (r.1, .txt s :: r.2) := by
  cases fuel <;> simp only [walkItems] <;> split <;> simp [*]

def allTxt : List Item → Bool
  | [] => true
  | .txt _ :: rest => allTxt rest
  | .ref _ _ _ _ :: _ => false

theorem walk_txt {proj : Table} {fuel : Nat} {st : St} {items : List Item} (h : allTxt items = true) :
    walkItems proj fuel st items = some (st, items) := by
  induction items with
  | nil => exact walkItems_nil ..
  | cons it rest ih =>
    cases it with
    | txt s => simp [walkItems_txt, ih h]
    | ref _ _ _ _ => cases h

theorem walkItems_ref_active {proj : Table} {fuel : Nat} {st : St} {name : String} {line : Nat} {pend : Bool}
    {cs rest : List Item} (hs : st.seen = none) (ha : st.active.contains name = true) :
    walkItems proj (fuel + 1) st (.ref name line pend cs :: rest)
      = (walkItems proj (fuel + 1) { st with diags := st.diags ++ [⟨st.file, .circular, line⟩] } rest).map
          fun r => (r.1, .ref name line false [] :: r.2) := by
  simp only [walkItems, hs, ha, Option.isNone_none, Bool.and_self, if_true]
  cases walkItems proj (fuel + 1) _ rest <;> rfl

theorem walkItems_ref_found {proj : Table} {fuel : Nat} {st : St} {name : String} {line : Nat} {pend : Bool}
    {cs rest body : List Item} (hs : st.seen = none) (ha : st.active.contains name = false)
    (hl : lookupOrder st.stack.head? st.defs proj name = some body) :
    walkItems proj (fuel + 1) st (.ref name line pend cs :: rest)
      = (walkItems proj fuel { st with active := name :: st.active } body).bind fun k =>
          (walkItems proj (fuel + 1) { k.1 with active := k.1.active.drop 1 } rest).map
            fun r => (r.1, .ref name line false k.2 :: r.2) := by
  obtain ⟨defs, stack, files, pending, diags, seen, active⟩ := st
  subst hs
  simp only [walkItems, ha, hl, Option.isNone_none, Bool.and_false, Bool.false_eq_true, if_false, Option.map_none]
  rcases walkItems proj fuel _ body with _ | ⟨st4, kids⟩
  · rfl
  · dsimp only [Option.bind_some]
    cases walkItems proj (fuel + 1) _ rest <;> rfl

theorem walkItems_ref_pending {proj : Table} {fuel : Nat} {st : St} {name : String} {line : Nat} {pend : Bool}
    {cs rest : List Item} (hs : st.seen = none) (ha : st.active.contains name = false)
    (hl : lookupOrder st.stack.head? st.defs proj name = none) :
    walkItems proj (fuel + 1) st (.ref name line pend cs :: rest)
      = (walkItems proj fuel
            { st with pending := st.pending ++ [(name, st.file, line)], active := name :: st.active } cs).bind fun k =>
          (walkItems proj (fuel + 1) { k.1 with active := k.1.active.drop 1 } rest).map
            fun r => (r.1, .ref name line true k.2 :: r.2) := by
  obtain ⟨defs, stack, files, pending, diags, seen, active⟩ := st
  subst hs
  simp only [walkItems, ha, hl, Option.isNone_none, Bool.and_false, Bool.false_eq_true, if_false, Option.map_none]
  rcases walkItems proj fuel _ cs with _ | ⟨st4, kids⟩
  · rfl
  · dsimp only [Option.bind_some]
    cases walkItems proj (fuel + 1) _ rest <;> rfl

def nlCount (s : List Char) : Nat := s.count '\n'

theorem nlCount_cons (c : Char) (s : List Char) : nlCount (c :: s) = nlCount s + if c = '\n' then 1 else 0 := by
  simp [nlCount, List.count_cons]

theorem nlCount_append (a b : List Char) : nlCount (a ++ b) = nlCount a + nlCount b := List.count_append

theorem matchVar_some {isWord : Char → Bool} {s name rest : List Char} (h : matchVar isWord s = some (name, rest)) :
    s = '{' :: '+' :: (name ++ '+' :: '}' :: rest) ∧ ∀ c ∈ name, isVarChar isWord c = true := by
  unfold matchVar at h
  split at h
  · next t =>
    dsimp only at h
    split at h
    · next hdrop =>
      cases h
      exact ⟨by rw [← hdrop, List.takeWhile_append_dropWhile], List.all_eq_true.1 List.all_takeWhile⟩
    · cases h
  · cases h

theorem matchVar_placeholder (isWord : Char → Bool) (hplus : isWord '+' = false)
    (name post : List Char) (hne : name ≠ []) (hname : ∀ c ∈ name, isVarChar isWord c = true) :
    matchVar isWord ('{' :: '+' :: (name ++ '+' :: '}' :: post)) = some (name, post) := by
  have hstop : ¬ isVarChar isWord '+' = true := by simp [isVarChar, hplus]
  simp only [matchVar, List.takeWhile_append_of_pos hname, List.dropWhile_append_of_pos hname,
    List.takeWhile_cons_of_neg hstop, List.dropWhile_cons_of_neg hstop, List.append_nil]
  cases name with
  | nil => exact absurd rfl hne
  | cons a as => rfl

theorem matchVar_none_of_head (isWord : Char → Bool) (c : Char) (t : List Char) (h : c ≠ '{') :
    matchVar isWord (c :: t) = none := by
  unfold matchVar
  split
  · next heq => cases heq; exact absurd rfl h
  · rfl

theorem matchVar_shape {isWord : Char → Bool} (hnl : isWord '\n' = false) {s name rest : List Char}
    (h : matchVar isWord s = some (name, rest)) :
    nlCount s = nlCount rest ∧ rest.length < s.length := by
  obtain ⟨rfl, hname⟩ := matchVar_some h
  have : nlCount name = 0 := List.count_eq_zero.2 fun hm => by simpa [isVarChar, hnl] using hname _ hm
  simp [nlCount_cons, nlCount_append, this]
  omega

theorem substConsts_nl (isWord : Char → Bool) (hnl : isWord '\n' = false)
    (consts : List (List Char × List Char)) (hc : ∀ p ∈ consts, nlCount p.2 = 0) :
    ∀ (fuel line : Nat) (s : List Char), s.length ≤ fuel →
      nlCount (substConsts isWord consts fuel line s).1 = nlCount s := by
  intro fuel
  induction fuel with
  | zero => intro _ _ _; rfl
  | succ f ih =>
    intro line s h
    cases s with
    | nil => rfl
    | cons c t =>
      simp only [substConsts]
      split
      · next name rest hm =>
        have hs := matchVar_shape hnl hm
        have ihr := ih line rest (by simp only [List.length_cons] at h hs; omega)
        split
        · next k v hf =>
          have hv : nlCount v = 0 := hc _ (List.mem_of_find?_eq_some hf)
          simp only [nlCount_append, hv, ihr, hs.1, Nat.zero_add]
        · simp [nlCount_cons, ihr, hs.1]
      · simp only [nlCount_cons, ih _ t (Nat.le_of_succ_le_succ h)]

end SnootyVerif.Subst
