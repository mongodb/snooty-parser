import SnootyVerif.Model.TitleInject
namespace SnootyVerif.TitleInject

theorem hasRefL_append (a b : List N) : hasRefL (a ++ b) = (hasRefL a || hasRefL b) := by
  induction a with
  | nil => simp [hasRefL]
  | cons n ns ih => simp [hasRefL, ih, Bool.or_assoc]

mutual
/-- what is injected holds no cross-reference role -/
theorem strip_noRef (own : String) : ∀ (n : N), hasRefL (strip own n) = false
  | .text s => by simp [strip, hasRefL, hasRef]
  | .wrap cs => by simp [strip, hasRefL, hasRef, stripL_noRef own cs]
  | .ref t cs => by
    unfold strip
    split
    · simp [hasRefL]
    · exact stripL_noRef own cs
theorem stripL_noRef (own : String) : ∀ (ns : List N), hasRefL (stripL own ns) = false
  | [] => by simp [stripL, hasRefL]
  | n :: ns => by simp [stripL, hasRefL_append, strip_noRef own n, stripL_noRef own ns]
end

theorem size_pos (n : N) : 0 < size n := by
  cases n <;> simp only [size] <;> omega

mutual
theorem resolve_noRef (b : Bool) (titles : Titles) : ∀ (n : N) (fuel : Nat), hasRef n = false → size n ≤ fuel →
    resolve b titles fuel n = some n
  | n, 0, _, hs => absurd (size_pos n) (by omega)
  | .text s, f + 1, _, _ => by rw [resolve]
  | .wrap cs, f + 1, hr, hs => by
    simp [resolve, resolveL_noRef b titles cs f hr (by simp only [size] at hs; omega)]
  | .ref t cs, _, hr, _ => nomatch hr
theorem resolveL_noRef (b : Bool) (titles : Titles) : ∀ (ns : List N) (fuel : Nat), hasRefL ns = false → sizeL ns ≤ fuel →
    resolveL b titles fuel ns = some ns
  | [], _, _, _ => by rw [resolveL]
  | n :: ns, fuel, hr, hs => by
    simp only [hasRefL, Bool.or_eq_false_iff] at hr
    -- `sizeL (n :: ns)` is `size n + sizeL ns`: either part is within the fuel
    simp [resolveL, resolve_noRef b titles n fuel hr.1 (Nat.le_trans (Nat.le_add_right ..) hs),
      resolveL_noRef b titles ns fuel hr.2 (Nat.le_trans (Nat.le_add_left ..) hs)]
end

/-- `M` bounds the size of every title after stripping -/
def TitlesBounded (titles : Titles) (M : Nat) : Prop :=
  ∀ t title, titles t = some title → sizeL (stripL t title) ≤ M

mutual
/-- **the fixed pass terminates**: fuel `size + M` is never exhausted, whatever the titles refer to -/
theorem resolve_terminates (titles : Titles) (M : Nat) (hM : TitlesBounded titles M) :
    ∀ (n : N) (fuel : Nat), size n + M ≤ fuel → ∃ r, resolve true titles fuel n = some r
  | n, 0, hs => absurd (size_pos n) (by omega)
  | .text s, f + 1, _ => ⟨_, by rw [resolve]⟩
  | .wrap cs, f + 1, hs => by
    obtain ⟨rs, hrs⟩ := resolveL_terminates titles M hM cs f (by simp only [size] at hs; omega)
    exact ⟨.wrap rs, by simp [resolve, hrs]⟩
  | .ref t [], f + 1, hs => by
    cases ht : titles t with
    | none => exact ⟨.ref t [], by simp [resolve, ht]⟩
    | some title =>
      -- what is injected holds no reference, so the walk into it injects nothing further and the `M` left
      -- of the fuel is enough for it
      have h := resolveL_noRef true titles _ f (stripL_noRef t title)
        (by have := hM t title ht; simp only [size, sizeL] at hs; omega)
      exact ⟨.ref t (stripL t title), by simp [resolve, ht, h]⟩
  | .ref t (c :: cs), f + 1, hs => by
    obtain ⟨rs, hrs⟩ := resolveL_terminates titles M hM (c :: cs) f (by simp only [size] at hs; omega)
    exact ⟨.ref t rs, by simp [resolve, hrs]⟩
theorem resolveL_terminates (titles : Titles) (M : Nat) (hM : TitlesBounded titles M) :
    ∀ (ns : List N) (fuel : Nat), sizeL ns + M ≤ fuel → ∃ rs, resolveL true titles fuel ns = some rs
  | [], _, _ => ⟨[], by rw [resolveL]⟩
  | n :: ns, fuel, hs => by
    obtain ⟨r, hr⟩ := resolve_terminates titles M hM n fuel
      (Nat.le_trans (Nat.add_le_add_right (Nat.le_add_right ..) M) hs)
    obtain ⟨rs, hrs⟩ := resolveL_terminates titles M hM ns fuel
      (Nat.le_trans (Nat.add_le_add_right (Nat.le_add_left ..) M) hs)
    exact ⟨r :: rs, by simp [resolveL, hr, hrs]⟩
end

/-- the heading that refers to its own label: the title of `a` is `[:ref:`a`]` -/
def selfTitles : Titles := fun t => if t = "a" then some [.ref "a" []] else none

/-- **before the fix the pass never terminates on it**: whatever the recursion limit, it is hit -/
theorem resolve_unstripped_diverges : ∀ (fuel : Nat), resolve false selfTitles fuel (.ref "a" []) = none
  | 0 => by rw [resolve]
  | fuel + 1 => by simp [resolve, selfTitles, resolveL, resolve_unstripped_diverges fuel]

end SnootyVerif.TitleInject
