import SnootyVerif.Model.Visitor
namespace SnootyVerif.Visitor

@[simp] theorem T.kind_mk (i : Nat) (k : AKind) (t c : List T) : (T.mk i k t c).kind = k := rfl
@[simp] theorem T.id_mk (i : Nat) (k : AKind) (t c : List T) : (T.mk i k t c).id = i := rfl
@[simp] theorem T.cs_mk (i : Nat) (k : AKind) (t c : List T) : (T.mk i k t c).cs = c := rfl
@[simp] theorem T.term_mk (i : Nat) (k : AKind) (t c : List T) : (T.mk i k t c).term = t := rfl

/-- what attaching does to the host: nothing, or the children of a term become its `term`, or the node becomes its last child -/
theorem attachT_cases (top p : T) :
    attachT top p = top
    ∨ (p.kind = .term ∧ top.kind = .dlItem ∧ attachT top p = .mk top.id top.kind p.cs top.cs)
    ∨ (p.kind ≠ .term ∧ attachT top p = .mk top.id top.kind top.term (top.cs ++ [p])) := by
  unfold attachT attach
  by_cases h1 : p.kind = .term
  · by_cases h2 : top.kind = .dlItem <;> simp [h1, h2]
  · by_cases h3 : top.kind = .noChildren
    · simp [h1, h3]
    · by_cases h4 : top.kind = .leaf <;> simp [h1, h3, h4]

@[simp] theorem attachT_kind (top p : T) : (attachT top p).kind = top.kind := by
  rcases attachT_cases top p with h | ⟨_, _, h⟩ | ⟨_, h⟩ <;> simp [h]

@[simp] theorem attachT_id (top p : T) : (attachT top p).id = top.id := by
  rcases attachT_cases top p with h | ⟨_, _, h⟩ | ⟨_, h⟩ <;> simp [h]

theorem idsL_append (a b : List T) : idsL (a ++ b) = idsL a ++ idsL b := by
  induction a with
  | nil => simp [idsL]
  | cons t ts ih => simp [idsL, ih]

theorem T.ids_eq (t : T) : t.ids = t.id :: (idsL t.term ++ idsL t.cs) := by
  cases t; simp [T.ids]

/-- attaching never invents a node: every id afterwards was in the host or in the attached node -/
theorem attachT_ids_mem (top p : T) (i : Nat) (hi : i ∈ (attachT top p).ids) : i ∈ top.ids ∨ i ∈ p.ids := by
  rcases attachT_cases top p with h | ⟨_, _, h⟩ | ⟨_, h⟩ <;> rw [h] at hi
  · exact .inl hi
  · simp only [T.ids, T.ids_eq top, T.ids_eq p, List.mem_cons, List.mem_append] at hi ⊢
    rcases hi with h | h | h <;> simp [h]
  · simp only [T.ids, T.ids_eq top, idsL_append, idsL, List.append_nil, List.mem_cons, List.mem_append] at hi ⊢
    rcases hi with h | h | h | h <;> simp [h]

@[simp] theorem attachAllT_kind (ps : List T) (top : T) : (attachAllT top ps).kind = top.kind := by
  induction ps generalizing top with
  | nil => rfl
  | cons p ps ih => simp [attachAllT, ih]

@[simp] theorem attachAllT_id (ps : List T) (top : T) : (attachAllT top ps).id = top.id := by
  induction ps generalizing top with
  | nil => rfl
  | cons p ps ih => simp [attachAllT, ih]

theorem attachAllT_append (a b : List T) (top : T) : attachAllT top (a ++ b) = attachAllT (attachAllT top a) b := by
  induction a generalizing top with
  | nil => rfl
  | cons p ps ih => simp [attachAllT, ih]

theorem attach_error (top p : T) (e : Err) (h : attach top p = .error e) : e = .assertionError ∧ p.kind = .term ∧ top.kind ≠ .dlItem := by
  unfold attach at h
  split at h
  · next hk =>
    split at h <;> cases h
    exact ⟨rfl, hk, ‹_›⟩
  · split at h
    · cases h
    · split at h <;> cases h

/-- `attach` raises only for a term handed to something that is not a definition list item -/
theorem attach_ok (top p : T) (h : p.kind = .term → top.kind = .dlItem) : attach top p = .ok (attachT top p) := by
  unfold attachT
  split
  · next h' => rw [h']
  · next e h' => exact absurd (h (attach_error top p e h').2.1) (attach_error top p e h').2.2

/-- the departure of a node that was pushed: it leaves the stack and goes to the node below -/
theorem depart_attach (popped top : T) (rest : List T) (h : popped.kind = .term → top.kind = .dlItem) :
    depart false (popped :: top :: rest) = .ok (attachT top popped :: rest) := by
  simp [depart, attach_ok top popped h, Except.map]

theorem depart_skip (st : List T) : depart true st = .ok st := by
  simp [depart]

theorem term_imp_dlItem {k host : AKind} (h : (k != .term || host == .dlItem) = true) : k = .term → host = .dlItem := by
  rintro rfl
  simpa using h

mutual
/-- **the visitor's stack is a faithful tree builder**: on a doctree all of whose nodes had a balanced outcome (and whose
terms sit in definition list items) the walk never fails, leaves the stack below the current node untouched, and adds to
the current node exactly the nodes of the stack-free specification, in document order. -/
theorem walk_spec : ∀ (d : DNode) (top : T) (rest : List T), balanced d = true → termsOk top.kind d = true →
    walk (top :: rest) d = .ok (attachAllT top (emit d) :: rest)
  | .mk id pushes exit kind dskip cs, top, rest, hb, ht => by
    simp only [balanced, Bool.and_eq_true] at hb
    obtain ⟨ho, hcs⟩ := hb
    unfold termsOk at ht
    cases exit with
    | skipNode =>
      cases (show pushes = 0 by simpa [balancedOutcome] using ho)
      simp [walk, emit, pushN, attachAllT]
    | skipDeparture =>
      cases (show pushes = 0 by simpa [balancedOutcome] using ho)
      simp [walk, emit, pushN, walkL_spec cs top rest hcs ht]
    | skipChildren =>
      obtain ⟨rfl, rfl⟩ : pushes = 1 ∧ dskip = false := by simpa [balancedOutcome] using ho
      have hd := depart_attach (.mk id kind [] []) top rest (term_imp_dlItem (by simpa using ht))
      simp [walk, emit, pushN, attachAllT, hd]
    | normal =>
      simp only [balancedOutcome, Bool.or_eq_true, Bool.and_eq_true, beq_iff_eq, Bool.not_eq_true'] at ho
      rcases ho with ⟨rfl, rfl⟩ | ⟨rfl, rfl⟩
      · obtain ⟨hk, ht'⟩ : (kind != .term || top.kind == .dlItem) = true ∧ termsOkL kind cs = true := by simpa using ht
        have ih := walkL_spec cs (.mk id kind [] []) (top :: rest) hcs (by simpa using ht')
        have hd := depart_attach (attachAllT (.mk id kind [] []) (emitL cs)) top rest (by simpa using term_imp_dlItem hk)
        simp [walk, emit, pushN, attachAllT, ih, Except.bind, hd]
      · simp [walk, emit, pushN, walkL_spec cs top rest hcs (by simpa using ht), Except.bind, depart_skip]
theorem walkL_spec : ∀ (ds : List DNode) (top : T) (rest : List T), balancedL ds = true → termsOkL top.kind ds = true →
    walkL (top :: rest) ds = .ok (attachAllT top (emitL ds) :: rest)
  | [], top, rest, _, _ => by simp [walkL, emitL, attachAllT]
  | d :: ds, top, rest, hb, ht => by
    simp only [balancedL, termsOkL, Bool.and_eq_true] at hb ht
    have h2 := walkL_spec ds (attachAllT top (emit d)) rest hb.2 (by simpa using ht.2)
    simp [walkL, emitL, walk_spec d top rest hb.1 ht.1, Except.bind, h2, attachAllT_append]
end

/-- the document node: the stack starts empty, the root stays on it -/
theorem walkDoc_spec (id : Nat) (kind : AKind) (cs : List DNode) (hb : balancedL cs = true) (ht : termsOkL kind cs = true) :
    walkDoc (.mk id 1 .normal kind false cs) = .ok (attachAllT (.mk id kind [] []) (emitL cs)) := by
  have h := walkL_spec cs (.mk id kind [] []) [] hb (by simpa using ht)
  simp [walkDoc, walk, pushN, h, Except.bind, depart]

theorem attachAllT_ids_mem (ps : List T) (top : T) (i : Nat) (h : i ∈ (attachAllT top ps).ids) : i ∈ top.ids ∨ i ∈ idsL ps := by
  induction ps generalizing top with
  | nil => exact .inl h
  | cons p ps ih =>
    rw [idsL, List.mem_append]
    rcases ih _ h with h1 | h1
    · rcases attachT_ids_mem _ _ _ h1 with h2 | h2
      · exact .inl h2
      · exact .inr (.inl h2)
    · exact .inr (.inr h1)

mutual
/-- every AST node comes from a doctree node of the subtree it was built from -/
theorem emit_ids_mem : ∀ (d : DNode) (i : Nat), i ∈ idsL (emit d) → i ∈ d.ids
  | .mk id pushes exit kind dskip cs, i, h => by
    have ih := emitL_ids_mem cs i
    unfold emit at h
    rw [DNode.ids, List.mem_cons]
    cases exit with
    | skipNode => simp [idsL] at h
    | skipDeparture => exact .inr (ih h)
    | skipChildren =>
      simp only [] at h
      split at h
      · simp [idsL] at h
      · exact .inl (by simpa [idsL, T.ids] using h)
    | normal =>
      simp only [] at h
      split at h
      · exact .inr (ih h)
      · rw [idsL, idsL, List.append_nil] at h
        exact (attachAllT_ids_mem _ _ _ h).imp (by simp [T.ids, idsL]) ih
theorem emitL_ids_mem : ∀ (ds : List DNode) (i : Nat), i ∈ idsL (emitL ds) → i ∈ dIdsL ds
  | [], i, h => by simp [emitL, idsL] at h
  | d :: ds, i, h => by
    rw [emitL, idsL_append, List.mem_append] at h
    rw [dIdsL, List.mem_append]
    exact h.imp (emit_ids_mem d i) (emitL_ids_mem ds i)
end

/-! ### document order, for hosts that keep what they are handed (`Parent` nodes; childless leaves) -/

def noTerm (ps : List T) : Prop := ∀ p ∈ ps, p.kind ≠ .term

theorem attachAllT_parent_ids (ps : List T) (top : T) (hk : top.kind = .parent) (hp : noTerm ps) :
    (attachAllT top ps).ids = top.ids ++ idsL ps := by
  induction ps generalizing top with
  | nil => simp [attachAllT, idsL]
  | cons p ps ih =>
    have hat : attachT top p = .mk top.id top.kind top.term (top.cs ++ [p]) := by
      simp [attachT, attach, hp p List.mem_cons_self, hk]
    rw [attachAllT, ih _ (by simp [hk]) (fun q hq => hp q (List.mem_cons_of_mem _ hq)), hat, T.ids, idsL_append, T.ids_eq top]
    simp [idsL]

mutual
theorem emit_noTerm : ∀ (d : DNode), plain d = true → noTerm (emit d)
  | .mk id pushes exit kind dskip cs, h => by
    simp only [plain, Bool.and_eq_true, Bool.or_eq_true, beq_iff_eq] at h
    have hk : kind ≠ .term := by rcases h.1 with hk | hk <;> simp [hk]
    have ih := emitL_noTerm cs h.2
    unfold emit
    cases exit with
    | skipNode => simp [noTerm]
    | skipDeparture => exact ih
    | skipChildren =>
      simp only []
      split <;> simp [noTerm, hk]
    | normal =>
      simp only []
      split
      · exact ih
      · simp [noTerm, hk]
theorem emitL_noTerm : ∀ (ds : List DNode), plainL ds = true → noTerm (emitL ds)
  | [], _ => by simp [emitL, noTerm]
  | d :: ds, h => by
    simp only [plainL, Bool.and_eq_true] at h
    intro p hp
    rw [emitL, List.mem_append] at hp
    exact hp.elim (emit_noTerm d h.1 p) (emitL_noTerm ds h.2 p)
end

mutual
/-- **reading order**: on plain trees the ids of the AST, read depth-first, are a subsequence of the ids of the doctree
read depth-first — nothing is reordered, nothing appears twice -/
theorem emit_ids_sublist : ∀ (d : DNode), plain d = true → (idsL (emit d)).Sublist d.ids
  | .mk id pushes exit kind dskip cs, h => by
    simp only [plain, Bool.and_eq_true, Bool.or_eq_true, beq_iff_eq] at h
    have ih := emitL_ids_sublist cs h.2
    unfold emit
    rw [DNode.ids]
    cases exit with
    | skipNode => simp [idsL]
    | skipDeparture => exact ih.cons _
    | skipChildren =>
      simp only []
      split <;> simp [idsL, T.ids]
    | normal =>
      simp only []
      split
      · exact ih.cons _
      · rw [idsL, idsL, List.append_nil]
        rcases h.1 with hk | ⟨hk, hc⟩
        · rw [attachAllT_parent_ids _ (.mk id kind [] []) hk (emitL_noTerm cs h.2)]
          simpa [T.ids, idsL] using ih
        · cases (show cs = [] by simpa using hc)
          simp [emitL, attachAllT, T.ids, idsL]
theorem emitL_ids_sublist : ∀ (ds : List DNode), plainL ds = true → (idsL (emitL ds)).Sublist (dIdsL ds)
  | [], _ => by simp [emitL, idsL]
  | d :: ds, h => by
    simp only [plainL, Bool.and_eq_true] at h
    rw [emitL, idsL_append, dIdsL]
    exact (emit_ids_sublist d h.1).append (emitL_ids_sublist ds h.2)
end

/-! ### no `_DefinitionListTerm` survives (C04) -/

theorem cleanL_append (a b : List T) : cleanL (a ++ b) = (cleanL a && cleanL b) := by
  induction a with
  | nil => simp [cleanL]
  | cons t ts ih => simp [cleanL, ih, Bool.and_assoc]

theorem T.clean_eq (t : T) : t.clean = (t.kind != .term && t.cleanBelow) := by
  cases t; simp [T.clean, T.cleanBelow, Bool.and_assoc]

theorem T.cleanBelow_eq (t : T) : t.cleanBelow = (cleanL t.term && cleanL t.cs) := by
  cases t; simp [T.cleanBelow]

/-- what a host may be handed: nothing of kind `term` below it, and a term only if the host is a definition list item -/
def okItem (host : AKind) (x : T) : Prop := x.cleanBelow = true ∧ (x.kind = .term → host = .dlItem)

theorem attachT_cleanBelow (top p : T) (ht : top.cleanBelow = true) (hp : okItem top.kind p) : (attachT top p).cleanBelow = true := by
  have hpc := hp.1
  rw [T.cleanBelow_eq, Bool.and_eq_true] at ht hpc
  rcases attachT_cases top p with h | ⟨_, _, h⟩ | ⟨hk, h⟩ <;> rw [h, T.cleanBelow_eq]
  · simp [ht]
  · simp [ht, hpc]
  · simp [ht, cleanL_append, cleanL, T.clean_eq, hk, hp.1]

theorem attachAllT_cleanBelow (ps : List T) (top : T) (ht : top.cleanBelow = true) (hp : ∀ p ∈ ps, okItem top.kind p) :
    (attachAllT top ps).cleanBelow = true := by
  induction ps generalizing top with
  | nil => exact ht
  | cons p ps ih =>
    exact ih _ (attachT_cleanBelow top p ht (hp p List.mem_cons_self))
      fun q hq => attachT_kind top p ▸ hp q (List.mem_cons_of_mem _ hq)

/-- a freshly pushed node with what its children hand it -/
theorem built_okItem (id : Nat) (kind host : AKind) (ps : List T) (hk : kind = .term → host = .dlItem)
    (hp : ∀ p ∈ ps, okItem kind p) : okItem host (attachAllT (.mk id kind [] []) ps) :=
  ⟨attachAllT_cleanBelow ps _ (by simp [T.cleanBelow, cleanL]) hp, by simpa using hk⟩

mutual
theorem emit_okItem : ∀ (d : DNode) (host : AKind), termsOk host d = true → ∀ x ∈ emit d, okItem host x
  | .mk id pushes exit kind dskip cs, host, ht => by
    unfold termsOk at ht
    unfold emit
    cases exit with
    | skipNode => simp
    | skipDeparture => exact emitL_okItem cs host ht
    | skipChildren =>
      simp only [] at ht ⊢
      split
      · simp
      · next hp =>
        have hk := term_imp_dlItem (by simpa [hp] using ht)
        simpa [attachAllT] using built_okItem id kind host [] hk (by simp)
    | normal =>
      simp only [] at ht ⊢
      split
      · next hp => exact emitL_okItem cs host (by simpa [hp] using ht)
      · next hp =>
        obtain ⟨hk, hcs⟩ : (kind != .term || host == .dlItem) = true ∧ termsOkL kind cs = true := by simpa [hp] using ht
        simpa using built_okItem id kind host _ (term_imp_dlItem hk) (emitL_okItem cs kind hcs)
theorem emitL_okItem : ∀ (ds : List DNode) (host : AKind), termsOkL host ds = true → ∀ x ∈ emitL ds, okItem host x
  | [], _, _ => by simp [emitL]
  | d :: ds, host, ht => by
    simp only [termsOkL, Bool.and_eq_true] at ht
    intro x hx
    rw [emitL, List.mem_append] at hx
    exact hx.elim (emit_okItem d host ht.1 x) (emitL_okItem ds host ht.2 x)
end

/-- the root the specification builds holds no bookkeeping node -/
theorem spec_clean (id : Nat) (kind : AKind) (cs : List DNode) (hk : kind ≠ .term) (ht : termsOkL kind cs = true) :
    (attachAllT (.mk id kind [] []) (emitL cs)).clean = true := by
  have h := (built_okItem id kind kind _ (fun h => absurd h hk) (emitL_okItem cs kind ht)).1
  simp [T.clean_eq, h, hk]

end SnootyVerif.Visitor
