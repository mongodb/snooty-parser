import SnootyVerif.Model.Include

/-!
`finish` locates the two markers by index. Read from right to left it is a scan (`scan`, `finish_cons`),
which turns `cutNode` / `cutList` into a mutual structural recursion without indices (`cutNode_node`,
`cutList_nil`, `cutList_cons`). Every fact about the cut is proved by induction over these equations.
-/
namespace SnootyVerif.Include

theorem lastIdxFrom_eq (fl : List Bool) (d i : Nat) :
    lastIdxFrom d i fl = if fl.any id then i + lastIdxFrom 0 0 fl else d := by
  induction fl generalizing d i with
  | nil => rfl
  | cons f fs ih =>
    rw [lastIdxFrom, ih, lastIdxFrom, ih (if f = true then 0 else 0), List.any_cons]
    cases f <;> cases fs.any id <;> simp <;> omega

theorem lastIdx_none (fl : List Bool) (d : Nat) (h : fl.any id = false) : lastIdx fl d = d := by
  rw [lastIdx, lastIdxFrom_eq, h]; rfl

/-- a later flag wins, whatever the default (`d`, `d'` are unrelated) -/
theorem lastIdx_cons (f : Bool) (fl : List Bool) (d d' : Nat) :
    lastIdx (f :: fl) d' = if fl.any id then lastIdx fl d + 1 else if f then 0 else d' := by
  simp only [lastIdx, lastIdxFrom, lastIdxFrom_eq fl _ 1, lastIdxFrom_eq fl d 0]
  cases fl.any id <;> simp <;> omega

theorem lastIdx_zero_le (fl : List Bool) : lastIdx fl 0 ≤ fl.length := by
  induction fl with
  | nil => exact Nat.le_refl 0
  | cons f fs ih => rw [lastIdx_cons f fs 0 0]; split <;> simp <;> omega

theorem slice_cons_succ (x : α) (xs : List α) (a b : Nat) : slice (x :: xs) (a + 1) (b + 1) = slice xs a b := by
  simp [slice]

theorem slice_cons_zero (x : α) (xs : List α) (b : Nat) : slice (x :: xs) 0 (b + 1) = x :: slice xs 0 b := by
  simp [slice]

theorem any_map_id (f : α → Bool) (l : List α) : (l.map f).any id = l.any f := by
  simp [List.any_map, Function.comp_def]

/-- One step of `finish` read from right to left; `v` is the outcome for the elements right of `r`.
With a start flag to the right, `r` lies before the slice and is dropped; if it carries the last end
flag, that flag precedes the last start flag. Otherwise `r` is kept, and what follows it as well
unless `r` carries the last end flag. -/
def scan (r : R) (v : List T × Bool × Bool) : Except String (List T × Bool × Bool) :=
  if v.2.1 && r.2.2 && !v.2.2 then .error "start-after text should precede end-before text"
  else .ok (if v.2.1 then v.1 else r.1 :: (if r.2.2 && !v.2.2 then [] else v.1), r.2.1 || v.2.1, r.2.2 || v.2.2)

theorem finish_cons (r : R) (rs : List R) :
    finish (r :: rs) = match finish rs with | .error m => .error m | .ok v => scan r v := by
  have hle := lastIdx_zero_le (rs.map (·.2.1))
  simp only [finish, scan, List.map_cons, List.length_cons, List.any_cons,
    lastIdx_cons _ _ 0 0, lastIdx_cons _ _ rs.length (rs.length + 1), any_map_id]
  cases hS : rs.any (·.2.1) <;> cases hE : rs.any (·.2.2) <;>
    simp [lastIdx_none, hS, hE] at hle ⊢
  · split <;> simp [slice]
  · exact slice_cons_zero ..
  · -- a start flag and no end flag on the right: `rs` itself does not raise since the start index is in range
    have := Nat.not_lt.2 hle
    cases r.2.2 <;> simp [this, slice_cons_succ]
  · split <;> simp [slice_cons_succ]

theorem finish_nil : finish [] = .ok ([], false, false) := rfl

theorem cutNode_node (tg : Tag) (cs : List T) : cutNode (.node tg cs) =
    match cutList cs with
    | .error e => .error e
    | .ok v => .ok (.node tg v.1, tg.isS || v.2.1, tg.isE || v.2.2) := by
  simp only [cutNode, cutList]
  split <;> rfl

theorem cutList_nil : cutList [] = .ok ([], false, false) := rfl

theorem cutList_cons (n : T) (ns : List T) : cutList (n :: ns) =
    match cutNode n with
    | .error e => .error e
    | .ok r => match cutList ns with
      | .error e => .error e
      | .ok v => scan r v := by
  simp only [cutList, cutEach]
  cases cutNode n with
  | error e => rfl
  | ok r => cases cutEach ns with
    | error e => rfl
    | ok rs => exact finish_cons r rs

theorem scan_ok {r : R} {v w : List T × Bool × Bool} (h : scan r v = .ok w) :
    w.2 = (r.2.1 || v.2.1, r.2.2 || v.2.2) ∧ w.1.Sublist (r.1 :: v.1) := by
  unfold scan at h
  split at h
  · cases h
  · cases h
    refine ⟨rfl, ?_⟩
    split
    · exact List.sublist_cons_self ..
    · split <;> simp

theorem scan_error {r : R} {v : List T × Bool × Bool} {m : String} (h : scan r v = .error m) :
    (v.2.1 = true ∧ r.2.2 = true) ∧ m = "start-after text should precede end-before text" := by
  unfold scan at h
  split at h
  · cases h; simp_all
  · cases h

mutual
theorem cutNode_flags : ∀ (t : T) (r : R), cutNode t = .ok r → r.2.1 = hasS t ∧ r.2.2 = hasE t
  | .node tg cs, r, h => by
    rw [cutNode_node] at h
    split at h
    · cases h
    · rename_i v hv
      cases h
      simp [hasS, hasE, cutList_flags cs v hv]
theorem cutList_flags : ∀ (ns : List T) (v : List T × Bool × Bool), cutList ns = .ok v →
    v.2.1 = hasSL ns ∧ v.2.2 = hasEL ns
  | [], v, h => by cases h; exact ⟨rfl, rfl⟩
  | n :: ns, w, h => by
    rw [cutList_cons] at h
    split at h
    · cases h
    · rename_i r hr
      split at h
      · cases h
      · rename_i v hv
        simp [hasSL, hasEL, (scan_ok h).1, cutNode_flags n r hr, cutList_flags ns v hv]
end

theorem flatL_sublist_of_sublist {xs ys : List T} (h : xs.Sublist ys) : (flatL xs).Sublist (flatL ys) := by
  induction h with
  | slnil => exact List.Sublist.refl _
  | cons a _ ih => exact ih.trans (List.sublist_append_right _ _)
  | cons_cons a _ ih => exact List.Sublist.append (List.Sublist.refl _) ih

mutual
theorem cutNode_sublist : ∀ (t : T) (r : R), cutNode t = .ok r → (flat r.1).Sublist (flat t)
  | .node tg cs, r, h => by
    rw [cutNode_node] at h
    split at h
    · cases h
    · rename_i v hv
      cases h
      exact (cutList_sublist cs v hv).cons_cons tg
theorem cutList_sublist : ∀ (ns : List T) (v : List T × Bool × Bool), cutList ns = .ok v →
    (flatL v.1).Sublist (flatL ns)
  | [], v, h => by cases h; exact .slnil
  | n :: ns, w, h => by
    rw [cutList_cons] at h
    split at h
    · cases h
    · rename_i r hr
      split at h
      · cases h
      · rename_i v hv
        exact (flatL_sublist_of_sublist (scan_ok h).2).trans
          ((cutNode_sublist n r hr).append (cutList_sublist ns v hv))
end

mutual
theorem cutNode_none : ∀ (t : T), hasS t = false → hasE t = false → cutNode t = .ok (t, false, false)
  | .node tg cs, h1, h2 => by
    simp only [hasS, hasE, Bool.or_eq_false_iff] at h1 h2
    simp [cutNode_node, cutList_none cs h1.2 h2.2, h1.1, h2.1]
theorem cutList_none : ∀ (ns : List T), hasSL ns = false → hasEL ns = false → cutList ns = .ok (ns, false, false)
  | [], _, _ => rfl
  | n :: ns, h1, h2 => by
    simp only [hasSL, hasEL, Bool.or_eq_false_iff] at h1 h2
    simp [cutList_cons, cutNode_none n h1.1 h2.1, cutList_none ns h1.2 h2.2, scan]
end

mutual
theorem cutNode_error : ∀ (t : T) (m : String), cutNode t = .error m →
    (hasS t = true ∧ hasE t = true) ∧ m = "start-after text should precede end-before text"
  | .node tg cs, m, h => by
    rw [cutNode_node] at h
    split at h
    · rename_i e he
      cases h
      simp [hasS, hasE, cutList_error cs _ he]
    · cases h
theorem cutList_error : ∀ (ns : List T) (m : String), cutList ns = .error m →
    (hasSL ns = true ∧ hasEL ns = true) ∧ m = "start-after text should precede end-before text"
  | [], m, h => by cases h
  | n :: ns, m, h => by
    rw [cutList_cons] at h
    split at h
    · rename_i e he
      cases h
      simp [hasSL, hasEL, cutNode_error n _ he]
    · rename_i r hr
      split at h
      · rename_i e he
        cases h
        simp [hasSL, hasEL, cutList_error ns _ he]
      · rename_i v hv
        have := scan_error h
        simp [hasSL, hasEL, ← (cutNode_flags n r hr).2, ← (cutList_flags ns v hv).1, this]
end

theorem cutDiags_eq (wantS wantE : Bool) (ns : List T) : cutDiags wantS wantE ns =
    match cutList ns with
    | .error _ => [.reversed]
    | .ok _ => (if wantS && !hasSL ns then [.noStart] else []) ++ (if wantE && !hasEL ns then [.noEnd] else []) := by
  unfold cutDiags
  cases hc : cutList ns with
  | error _ => rfl
  | ok v => simp only [cutList_flags ns v hc]

theorem hasSL_eq_any : ∀ ns : List T, hasSL ns = ns.any hasS
  | [] => rfl
  | n :: ns => by simp [hasSL, hasSL_eq_any ns]

theorem hasEL_eq_any : ∀ ns : List T, hasEL ns = ns.any hasE
  | [] => rfl
  | n :: ns => by simp [hasEL, hasEL_eq_any ns]

theorem hasSL_append (A B : List T) : hasSL (A ++ B) = (hasSL A || hasSL B) := by
  simp only [hasSL_eq_any, List.any_append]

theorem hasEL_append (A B : List T) : hasEL (A ++ B) = (hasEL A || hasEL B) := by
  simp only [hasEL_eq_any, List.any_append]

end SnootyVerif.Include
