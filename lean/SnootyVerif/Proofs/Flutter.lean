import SnootyVerif.Model.Flutter

/-!
Lemmas for C16 (`check_type` model). Everything that is proved of the four mutually recursive
checkers (`check`, `checkUnion`, `checkTuple`, `checkKey`) is one statement per checker, `Checks`,
established by a single mutual induction (`check_spec` …); soundness, "only `LoadError`s" and
completeness are its three fields.
-/
namespace SnootyVerif.Flutter

/-! ### `Except` and `List.mapM` in it -/

theorem exists_ok_of_isOk {ε α} {r : Except ε α} (h : r.isOk = true) : ∃ x, r = .ok x := by
  cases r with
  | ok x => exact ⟨x, rfl⟩
  | error e => cases h

/-- a successful `mapM` returns, position by position, what `f` returned -/
theorem mapM_ok {ε α β} {f : α → Except ε β} {xs : List α} {ys : List β} (h : xs.mapM f = .ok ys) :
    xs.map f = ys.map .ok := by
  induction xs generalizing ys with
  | nil => cases h; rfl
  | cons a l ih =>
    rw [List.mapM_cons] at h
    cases ha : f a with
    | error e => rw [ha] at h; cases h
    | ok b =>
      cases hl : l.mapM f with
      | error e => rw [ha, hl] at h; cases h
      | ok bs => rw [ha, hl] at h; cases h; simp [ha, ih hl]

theorem mapM_ok_mem {ε α β} {f : α → Except ε β} {xs : List α} {ys : List β}
    (h : xs.mapM f = .ok ys) (y : β) (hy : y ∈ ys) : ∃ x ∈ xs, f x = .ok y :=
  List.mem_map.mp (mapM_ok h ▸ List.mem_map_of_mem hy)

theorem mapM_ok_mem' {ε α β} {f : α → Except ε β} {xs : List α} {ys : List β}
    (h : xs.mapM f = .ok ys) (x : α) (hx : x ∈ xs) : ∃ y ∈ ys, f x = .ok y :=
  let ⟨y, hy, hxy⟩ := List.mem_map.mp (mapM_ok h ▸ List.mem_map_of_mem hx); ⟨y, hy, hxy.symm⟩

theorem mapM_ok_length {ε α β} {f : α → Except ε β} :
    ∀ {xs : List α} {ys : List β}, xs.mapM f = .ok ys → ys.length = xs.length := by
  intro xs ys h
  simpa using (congrArg List.length (mapM_ok h)).symm

/-- a failing `mapM` returns the failure of one of the elements -/
theorem mapM_error_mem {ε α β} {f : α → Except ε β} {xs : List α} {e : ε} (h : xs.mapM f = .error e) :
    ∃ x ∈ xs, f x = .error e := by
  induction xs with
  | nil => cases h
  | cons a l ih =>
    rw [List.mapM_cons] at h
    cases ha : f a with
    | error e1 => rw [ha] at h; cases h; exact ⟨a, List.mem_cons_self, ha⟩
    | ok b =>
      cases hl : l.mapM f with
      | error e2 =>
        rw [ha, hl] at h; cases h
        obtain ⟨x, hx, hfx⟩ := ih hl
        exact ⟨x, List.mem_cons_of_mem _ hx, hfx⟩
      | ok bs => rw [ha, hl] at h; cases h

/-- elements before the first failing one succeed: `mapM` returns that failure -/
theorem mapM_first_error {ε α β} {f : α → Except ε β} {x : α} {e : ε} (hx : f x = .error e)
    (tail pre : List α) (h : ∀ a ∈ pre, ∃ b, f a = .ok b) : (pre ++ x :: tail).mapM f = .error e := by
  induction pre with
  | nil => rw [List.nil_append, List.mapM_cons, hx]; rfl
  | cons a pre ih =>
    obtain ⟨b, hb⟩ := h a List.mem_cons_self
    rw [List.cons_append, List.mapM_cons, hb, ih fun a ha => h a (List.mem_cons_of_mem _ ha)]
    rfl

/-- The three facts proved of every checker, as a statement about its result `r`: a returned value
satisfies `P`; and when no `__post_init__` of the declared type can raise (`N`), an exception is a
`LoadError` and input that conforms to the declared type (`C`) is accepted. -/
structure Checks {α} (r : Except LoadErr α) (P : α → Prop) (N C : Prop) : Prop where
  sound : ∀ x, r = .ok x → P x
  err : ∀ e, r = .error e → N → e.isLoadError = true
  complete : C → N → ∃ x, r = .ok x

namespace Checks
section
variable {α β γ : Type} {r : Except LoadErr α} {P P' : α → Prop} {N N' C C' : Prop}

theorem ok {x : α} (h : P x) : Checks (.ok x) P N C :=
  ⟨fun _ hx => by cases hx; exact h, nofun, fun _ _ => ⟨x, rfl⟩⟩

theorem error {e : LoadErr} (h : N → e.isLoadError = true ∧ ¬C) : Checks (.error e) P N C :=
  ⟨nofun, fun _ he hn => by cases he; exact (h hn).1, fun hc hn => absurd hc (h hn).2⟩

theorem wrongType (h : ¬C) : Checks (.error .wrongType) P N C :=
  .error fun _ => ⟨rfl, h⟩

/-- completeness may be shown apart -/
theorem of_complete (h : Checks r P N False) (hc : C → ∃ x, r = .ok x) : Checks r P N C :=
  ⟨h.sound, h.err, fun c _ => hc c⟩

theorem imp (h : Checks r P N C) (hP : ∀ x, P x → P' x) (hN : N' → N) (hC : N' → C' → C) :
    Checks r P' N' C' :=
  ⟨fun x hx => hP x (h.sound x hx), fun e he hn => h.err e he (hN hn),
   fun hc hn => h.complete (hC hn hc) (hN hn)⟩

theorem bind {f : α → Except LoadErr β} {Q : β → Prop} (h : Checks r P N C)
    (hf : ∀ x, P x → Checks (f x) Q N' C') : Checks (r >>= f) Q (N ∧ N') (C ∧ C') := by
  cases r with
  | ok x => exact (hf x (h.sound x rfl)).imp (fun _ => id) And.right fun _ => And.right
  | error e => exact .error fun hn => ⟨h.err e rfl hn.1, fun hc => nomatch h.complete hc.1 hn.1⟩

theorem seq {s : Except LoadErr β} {g : α → β → γ} {Q : β → Prop} {R : γ → Prop}
    (hr : Checks r P N C) (hs : Checks s Q N' C') (hR : ∀ x y, P x → Q y → R (g x y)) :
    Checks (do let x ← r; let y ← s; pure (g x y)) R (N ∧ N') (C ∧ C') :=
  (hr.bind fun x hx => hs.bind fun y hy => ok (N := True) (C := True) (hR x y hx hy)).imp
    (fun _ => id) (fun hn => ⟨hn.1, hn.2, trivial⟩) fun _ hc => ⟨hc.1, hc.2, trivial⟩

theorem map (g : α → β) {Q : β → Prop} (h : Checks r (fun x => Q (g x)) N C) :
    Checks (r.map g) Q N C := by
  cases r with
  | ok x => exact .ok (h.sound x rfl)
  | error e => exact .error fun hn => ⟨h.err e rfl hn, fun hc => nomatch h.complete hc hn⟩

theorem mapM_rel {f : α → Except LoadErr β} {R : α → β → Prop} {C : α → Prop} {xs : List α}
    (h : ∀ x ∈ xs, Checks (f x) (R x) N (C x)) :
    Checks (xs.mapM f) (fun ys => (∀ y ∈ ys, ∃ x ∈ xs, R x y) ∧ ∀ x ∈ xs, ∃ y ∈ ys, R x y) N
      (∀ x ∈ xs, C x) where
  sound ys hys :=
    ⟨fun y hy => let ⟨x, hx, hxy⟩ := mapM_ok_mem hys y hy; ⟨x, hx, (h x hx).sound y hxy⟩,
     fun x hx => let ⟨y, hy, hxy⟩ := mapM_ok_mem' hys x hx; ⟨y, hy, (h x hx).sound y hxy⟩⟩
  err e he hn := let ⟨x, hx, hxe⟩ := mapM_error_mem he; (h x hx).err e hxe hn
  complete hc hn := by
    cases hm : xs.mapM f with
    | ok ys => exact ⟨ys, rfl⟩
    | error e =>
      obtain ⟨x, hx, hxe⟩ := mapM_error_mem hm
      obtain ⟨y, hy⟩ := (h x hx).complete (hc x hx) hn
      rw [hy] at hxe; cases hxe

theorem mapM {f : α → Except LoadErr β} {Q : β → Prop} {C : α → Prop} {xs : List α}
    (h : ∀ x ∈ xs, Checks (f x) Q N (C x)) :
    Checks (xs.mapM f) (fun ys => ∀ y ∈ ys, Q y) N (∀ x ∈ xs, C x) :=
  (mapM_rel h).imp (fun _ h y hy => (h.1 y hy).elim fun _ h => h.2) id fun _ => id

end
end Checks

/-- the final `isinstance(data, ty)` test (`Ty.cls`, and `Ty.enum` for data that is no str / int) -/
theorem isinstance_spec {name : String} {v : Val} {P : TVal → Prop} {N C : Prop}
    (hP : name ∈ v.classes → P (.raw v)) (hC : C → name ∈ v.classes) :
    Checks (if name ∈ v.classes then .ok (.raw v) else .error .unloadable) P N C := by
  split
  · exact .ok (hP ‹_›)
  · exact .error fun _ => ⟨rfl, fun hc => ‹¬_› (hC hc)⟩

/-- `enumByName` and `enumByValue`, which differ in the test `p` only -/
theorem enumFind_spec {name : String} {ms : List (String × Option Int)}
    {p : String × Option Int → Bool} {N C : Prop} (hC : C → ∃ m ∈ ms, p m = true) :
    Checks (match ms.find? p with
      | some m => .ok (.enumMember name m.1)
      | none => .error .wrongType) (HasType · (.enum name ms)) N C := by
  split
  · next m hm => exact .ok (.enumMember ⟨m, List.mem_of_find?_eq_some hm, rfl⟩)
  · next hm =>
    exact .wrongType fun hc => let ⟨m, hm', hp⟩ := hC hc; List.find?_eq_none.mp hm m hm' hp

/-- The model writes this branch and the record branch with nested `match`; the rules above are
about `>>=`. -/
theorem checkTuple_cons (t : Ty) (ts : Tys) (a : Val) (xs : List Val) :
    checkTuple (.cons t ts) (a :: xs) =
      (do let y ← check t a; let ys ← checkTuple ts xs; pure (y :: ys)) := by
  rw [checkTuple]
  cases check t a with
  | error => rfl
  | ok => cases checkTuple ts xs <;> rfl

theorem check_record (name : String) (fs : Fields) (post : Post) (v : Val) :
    check (.record name fs post) v =
      match v with
      | .dict kvs =>
        (recordItems fs.names kvs).mapM
            (fun it => (checkKey fs it.1 it.2.1 it.2.2).map (fun x => (it.1, x))) >>=
          fun res => if post.ok res then .ok (.record name res) else .error .postInit
      | _ => .error .wrongType := by
  cases v with
  | dict kvs =>
    rw [check]; dsimp only
    cases List.mapM (m := Except LoadErr) _ (recordItems fs.names kvs) <;> rfl
  | _ => rfl

theorem mem_missingKeys {names : List String} {kvs : List (String × Val)} {n : String} :
    n ∈ missingKeys names kvs ↔ n ∈ names ∧ ∀ kv ∈ kvs, kv.1 ≠ n := by
  simp [missingKeys]

theorem missing_mem_recordItems {names : List String} {kvs : List (String × Val)} {n : String}
    (hn : n ∈ names) (hk : ∀ kv ∈ kvs, kv.1 ≠ n) : (n, Val.none, true) ∈ recordItems names kvs :=
  List.mem_append_right _ (List.mem_map_of_mem (mem_missingKeys.mpr ⟨hn, hk⟩))

theorem mem_recordItems_keys (names : List String) (kvs : List (String × Val)) (n : String)
    (hn : n ∈ names) : ∃ it ∈ recordItems names kvs, it.1 = n := by
  by_cases hk : ∃ kv ∈ kvs, kv.1 = n
  · obtain ⟨kv, hkv, rfl⟩ := hk
    exact ⟨_, List.mem_append_left _ (List.mem_map_of_mem hkv), rfl⟩
  · exact ⟨_, missing_mem_recordItems hn fun kv hkv h => hk ⟨kv, hkv, h⟩, rfl⟩

theorem conformsAll_length {xs : List Val} {ts : Tys} (h : ConformsAll xs ts) :
    xs.length = ts.length := by
  induction xs generalizing ts with
  | nil => cases h; rfl
  | cons x xs ih => cases h with | cons _ h => exact congrArg (· + 1) (ih h)

mutual
theorem check_spec : ∀ (ty : Ty) (v : Val),
    Checks (check ty v) (HasType · ty) (ty.noPost = true) (Conforms v ty)
  | .str, v | .int, v | .float, v | .bool, v | .none, v => by
    -- each `Conforms` rule of a primitive type names a shape that is accepted …
    refine .of_complete ?_ fun hc => by cases hc <;> exact ⟨_, rfl⟩
    unfold check
    -- … and `check` returns a value of an accepted shape as it is and rejects every other
    split <;> first | exact .wrongType id | exact .ok (by constructor)
  | .any, v => .ok (.any _)
  | .unsupported, _ => .error fun _ => ⟨rfl, nofun⟩
  | .cls name, v => isinstance_spec .cls fun (.cls h) => h
  | .enum name ms, v => by
    unfold check
    split
    · exact enumFind_spec fun (.enumName ⟨m, hm, hs⟩) => ⟨m, hm, beq_iff_eq.mpr hs⟩
    · exact enumFind_spec fun (.enumValue ⟨m, hm, hi⟩) => ⟨m, hm, beq_iff_eq.mpr hi⟩
    · exact enumFind_spec nofun
    · next hs hi _ =>
      exact isinstance_spec .enumInstance fun
        | .enumName _ => (hs _ rfl).elim
        | .enumValue _ => (hi _ rfl).elim
  | .list t, v => by
    unfold check
    split
    · exact .map TVal.list <| (Checks.mapM fun a _ => check_spec t a).imp (fun _ => .list) id
        fun _ (.list h) => h
    · next hne => exact .wrongType fun (.list _) => hne _ rfl
  | .set t, v => by
    unfold check
    split
    · exact .map TVal.set <| (Checks.mapM fun a _ => check_spec t a).imp (fun _ => .set) id
        fun _ (.set h) => h
    · next hne => exact .wrongType fun (.set _) => hne _ rfl
  | .dict kt vt, v => by
    unfold check
    split
    · exact .map TVal.dict <| (Checks.mapM fun (kv : String × Val) _ =>
          .seq (R := fun (y : TVal × TVal) => HasType y.1 kt ∧ HasType y.2 vt)
            (check_spec kt (.str kv.1)) (check_spec vt kv.2) fun _ _ => And.intro).imp
        (fun _ h => .dict (fun y hy => (h y hy).1) fun y hy => (h y hy).2) Bool.and_eq_true_iff.mp
        fun _ (.dict hk hv) kv hkv => ⟨hk kv hkv, hv kv hkv⟩
    · next hne => exact .wrongType fun (.dict _ _) => hne _ rfl
  | .tuple ts, v => by
    have inv : Conforms v (.tuple ts) → ∃ xs, asItems v = some xs ∧ ConformsAll xs ts :=
      fun (.tuple h) => ⟨_, rfl, h⟩
    rw [check]
    split
    · next xs hv =>
      replace inv : Conforms v (.tuple ts) → ConformsAll xs ts := fun hc =>
        let ⟨_, h, hall⟩ := inv hc; Option.some.inj (hv.symm.trans h) ▸ hall
      split
      · next hl =>
        exact .map TVal.tuple <| (checkTuple_spec ts xs).imp
          (fun _ h => .tuple (h (beq_iff_eq.mp hl))) id fun _ => inv
      · next hl =>
        exact .error fun _ => ⟨rfl, fun hc => hl (beq_iff_eq.mpr (conformsAll_length (inv hc)))⟩
    · next hv => exact .wrongType fun hc => let ⟨_, h, _⟩ := inv hc; nomatch hv.symm.trans h
  | .union ts, v =>
    (checkUnion_spec ts v).imp (fun _ ⟨_, ht, hx⟩ => .union ht hx) id
      fun _ (.union ht hc) => ⟨_, ht, hc⟩
  | .record name fs post, v => by
    rw [check_record]
    split
    · next kvs =>
      -- every item is checked under its key …
      have items := Checks.mapM_rel (xs := recordItems fs.names kvs)
        (R := fun it (kv : String × TVal) => kv.1 = it.1 ∧ FieldOk fs kv.1 kv.2) fun it _ =>
          .map (Prod.mk it.1) <|
            (checkKey_spec fs it.1 it.2.1 it.2.2).imp (fun _ h => ⟨rfl, h⟩) id fun _ => id
      -- … then `__post_init__` runs on the results
      refine (items.bind fun res hres => ?_).imp (fun _ => id)
        (fun hn => have hn := Bool.and_eq_true_iff.mp hn; ⟨hn.2, of_decide_eq_true hn.1⟩)
        fun _ (.record hk hm hpost) => ⟨fun it hit => ?_, hpost⟩
      · split
        · refine .ok (.record (fun kv hkv => (hres.1 kv hkv).elim fun _ h => h.2.2) (fun n hn => ?_) ‹_›)
          obtain ⟨it, hit, rfl⟩ := mem_recordItems_keys fs.names kvs n hn
          obtain ⟨kv, hkv, hk, _⟩ := hres.2 it hit
          exact ⟨kv.2, hk ▸ hkv⟩
        · exact .error fun hn => absurd (by rw [hn]; rfl) ‹¬post.ok res = true›
      · rcases List.mem_append.mp hit with h | h
        · obtain ⟨kv, hkv, rfl⟩ := List.mem_map.mp h
          exact hk kv hkv
        · obtain ⟨n, hn, rfl⟩ := List.mem_map.mp h
          exact hm n hn
    · next hne => exact .wrongType fun (.record _ _ _) => hne _ rfl

theorem checkUnion_spec : ∀ (ts : Tys) (v : Val),
    Checks (checkUnion ts v) (fun x => ∃ t ∈ ts.toList, HasType x t) (ts.noPost = true)
      (∃ t ∈ ts.toList, Conforms v t)
  | .nil, v => .wrongType fun ⟨_, h, _⟩ => nomatch h
  | .cons t ts, v => by
    have ht := check_spec t v
    rw [checkUnion]
    cases h : check t v with
    | ok x => exact .ok ⟨t, List.mem_cons_self, ht.sound x h⟩
    | error e =>
      dsimp only
      split
      · -- a `LoadError` of `t` is swallowed; by completeness at `t`, `v` does not conform to `t`
        exact (checkUnion_spec ts v).imp
          (fun _ ⟨t', ht', hx⟩ => ⟨t', List.mem_cons_of_mem _ ht', hx⟩)
          (fun hn => (Bool.and_eq_true_iff.mp hn).2)
          fun hn ⟨t', ht', hc⟩ => by
            rcases List.mem_cons.mp ht' with rfl | ht'
            · obtain ⟨x, hx⟩ := ht.complete hc (Bool.and_eq_true_iff.mp hn).1
              rw [hx] at h; cases h
            · exact ⟨t', ht', hc⟩
      · next hle => exact .error fun hn => absurd (ht.err e h (Bool.and_eq_true_iff.mp hn).1) hle

theorem checkTuple_spec : ∀ (ts : Tys) (xs : List Val),
    Checks (checkTuple ts xs) (fun ys => xs.length = ts.length → HasTypes ys ts) (ts.noPost = true)
      (ConformsAll xs ts)
  | .nil, xs => .ok fun _ => .nil
  | .cons t ts, [] => .ok nofun
  | .cons t ts, a :: xs => by
    rw [checkTuple_cons]
    exact (Checks.seq (check_spec t a) (checkTuple_spec ts xs) fun _ _ hy hys hl =>
      .cons hy (hys (Nat.succ.inj hl))).imp (fun _ => id) Bool.and_eq_true_iff.mp
        fun _ (.cons h1 h2) => ⟨h1, h2⟩

theorem checkKey_spec : ∀ (fs : Fields) (k : String) (v : Val) (miss : Bool),
    Checks (checkKey fs k v miss) (FieldOk fs k) (fs.noPost = true) (ConformsKey fs k v miss)
  | .nil, k, v, miss => .error fun _ => ⟨rfl, nofun⟩
  | .cons n t d fs, k, v, miss => by
    rw [checkKey]
    split
    · subst k
      split
      · next h => exact .ok ((Bool.and_eq_true_iff.mp h).2 ▸ .dflt)
      · next h =>
        exact (check_spec t v).imp (fun _ => .here) (fun hn => (Bool.and_eq_true_iff.mp hn).1)
          fun _ hc => by
            cases hc with
            | dflt => exact absurd rfl h
            | here hc => exact hc
            | there hne => exact absurd rfl hne
    · next hne =>
      exact (checkKey_spec fs k v miss).imp (fun _ => .there hne)
        (fun hn => (Bool.and_eq_true_iff.mp hn).2) fun _ hc => by
          cases hc with
          | dflt | here => exact absurd rfl hne
          | there _ hc => exact hc
end

/-! ### soundness: whatever `check` returns has the declared type -/

theorem check_sound : ∀ (ty : Ty) (v : Val) (x : TVal), check ty v = .ok x → HasType x ty :=
  fun ty v => (check_spec ty v).sound

theorem checkUnion_sound : ∀ (ts : Tys) (v : Val) (x : TVal), checkUnion ts v = .ok x →
    ∃ t ∈ ts.toList, HasType x t :=
  fun ts v => (checkUnion_spec ts v).sound

theorem checkTuple_sound : ∀ (ts : Tys) (xs : List Val) (ys : List TVal), checkTuple ts xs = .ok ys →
    xs.length = ts.length → HasTypes ys ts :=
  fun ts xs => (checkTuple_spec ts xs).sound

theorem checkKey_sound : ∀ (fs : Fields) (k : String) (v : Val) (miss : Bool) (x : TVal),
    checkKey fs k v miss = .ok x → FieldOk fs k x :=
  fun fs k v miss => (checkKey_spec fs k v miss).sound

/-! ### which exceptions can leave `check` -/

theorem check_err : ∀ (ty : Ty) (v : Val) (e : LoadErr), ty.noPost = true → check ty v = .error e →
    e.isLoadError = true :=
  fun ty v e hp h => (check_spec ty v).err e h hp

theorem checkUnion_err : ∀ (ts : Tys) (v : Val) (e : LoadErr), ts.noPost = true →
    checkUnion ts v = .error e → e.isLoadError = true :=
  fun ts v e hp h => (checkUnion_spec ts v).err e h hp

theorem checkTuple_err : ∀ (ts : Tys) (xs : List Val) (e : LoadErr), ts.noPost = true →
    checkTuple ts xs = .error e → e.isLoadError = true :=
  fun ts xs e hp h => (checkTuple_spec ts xs).err e h hp

theorem checkKey_err : ∀ (fs : Fields) (k : String) (v : Val) (miss : Bool) (e : LoadErr),
    fs.noPost = true → checkKey fs k v miss = .error e → e.isLoadError = true :=
  fun fs k v miss e hp h => (checkKey_spec fs k v miss).err e h hp

/-! ### completeness for conforming input (types without raising `__post_init__`) -/

theorem check_complete : ∀ (ty : Ty) (v : Val), Conforms v ty → ty.noPost = true → ∃ x, check ty v = .ok x :=
  fun ty v => (check_spec ty v).complete

theorem checkUnion_complete : ∀ (ts : Tys) (v : Val) (t : Ty), t ∈ ts.toList → Conforms v t →
    ts.noPost = true → ∃ x, checkUnion ts v = .ok x :=
  fun ts v t ht hc => (checkUnion_spec ts v).complete ⟨t, ht, hc⟩

theorem checkTuple_complete : ∀ (ts : Tys) (xs : List Val), ConformsAll xs ts → ts.noPost = true →
    ∃ ys, checkTuple ts xs = .ok ys :=
  fun ts xs => (checkTuple_spec ts xs).complete

theorem checkKey_complete : ∀ (fs : Fields) (k : String) (v : Val) (miss : Bool), ConformsKey fs k v miss →
    fs.noPost = true → ∃ y, checkKey fs k v miss = .ok y :=
  fun fs k v miss => (checkKey_spec fs k v miss).complete

/-! ### glue: `openConfig` -/

/-- Opening with a declared type none of whose `__post_init__` can raise is total: a value of that
type, or a diagnostic. -/
theorem openConfig_total {ty : Ty} (hp : ty.noPost = true) (rootClasses : List String) (p : Parsed) :
    (∃ cfg, openConfig ty rootClasses p = .ok cfg ∧ HasType cfg ty) ∨
      ∃ line, openConfig ty rootClasses p = .diag line := by
  cases p with
  | decodeError line => exact .inr ⟨line, rfl⟩
  | table kvs =>
    rw [openConfig]
    split
    · next cfg h => exact .inl ⟨cfg, rfl, check_sound _ _ _ h⟩
    · next e h => exact .inr ⟨0, by rw [check_err _ _ e hp h]; rfl⟩

/-! ### field lookup view of `checkKey` -/

/-- first declaration of `k` (dataclass field names are unique, so "first" is "the") -/
def Fields.lookup : Fields → String → Option (Ty × Bool)
  | .nil, _ => none
  | .cons n t d fs, k => if n = k then some (t, d) else fs.lookup k

theorem checkKey_eq_lookup : ∀ (fs : Fields) (k : String) (v : Val) (miss : Bool),
    checkKey fs k v miss =
      match fs.lookup k with
      | none => .error (.unknownField k)
      | some (t, d) => if miss && d then .ok .dflt else check t v
  | .nil, k, v, miss => rfl
  | .cons n t d fs, k, v, miss => by
    rw [checkKey, Fields.lookup]
    split
    · rfl
    · exact checkKey_eq_lookup fs k v miss

theorem lookup_none_of_not_mem : ∀ (fs : Fields) (k : String), k ∉ fs.names → fs.lookup k = none
  | .nil, k, _ => rfl
  | .cons n t d fs, k, h => by
    rw [Fields.lookup, if_neg fun (hnk : n = k) => h (hnk ▸ List.mem_cons_self)]
    exact lookup_none_of_not_mem fs k fun hk => h (List.mem_cons_of_mem _ hk)

theorem mem_names_of_lookup (fs : Fields) (k : String) (r : Ty × Bool) (h : fs.lookup k = some r) :
    k ∈ fs.names :=
  Decidable.by_contra fun hk => by rw [lookup_none_of_not_mem fs k hk] at h; cases h

/-- a record check that succeeds has checked every item of `recordItems` -/
theorem record_ok_item {name fs post kvs x} (h : check (.record name fs post) (.dict kvs) = .ok x)
    {it : String × Val × Bool} (hit : it ∈ recordItems fs.names kvs) :
    ∃ res y, x = .record name res ∧ (it.1, y) ∈ res ∧ checkKey fs it.1 it.2.1 it.2.2 = .ok y := by
  rw [check] at h
  split at h
  · cases h
  · next res hres =>
    split at h <;> cases h
    obtain ⟨kv, hkv, hy⟩ := mapM_ok_mem' hres it hit
    cases hc : checkKey fs it.1 it.2.1 it.2.2 with
    | error e => rw [hc] at hy; cases hy
    | ok y => rw [hc] at hy; cases hy; exact ⟨res, y, rfl, hkv, rfl⟩

/-- the given items are checked first and in order: the first one that fails decides the outcome -/
theorem check_record_first_error {name : String} {fs : Fields} {post : Post}
    {pre rest : List (String × Val)} {k : String} {v : Val} {e : LoadErr}
    (hpre : ∀ kv ∈ pre, ∃ y, checkKey fs kv.1 kv.2 false = .ok y)
    (hkv : checkKey fs k v false = .error e) :
    check (.record name fs post) (.dict (pre ++ (k, v) :: rest)) = .error e := by
  rw [check_record]; dsimp only
  rw [recordItems, List.mapM_append, List.mapM_map, mapM_first_error (e := e)]
  · rfl
  · simp only [Function.comp, hkv]; rfl
  · intro kv hkv
    obtain ⟨y, hy⟩ := hpre kv hkv
    exact ⟨(kv.1, y), by simp only [Function.comp, hy]; rfl⟩

end SnootyVerif.Flutter
