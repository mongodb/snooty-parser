import SnootyVerif.Model.Include

/-!
Expansion with the circular-include guard. It terminates on every include graph, because a file that is pushed
leaves fewer files that can still be pushed (`room_lt`). On an acyclic graph the guard never fires: every
include of an existing file is expanded (`expandFuel_no_cycle`).
-/
namespace SnootyVerif.Include

theorem room_le (pages : Pages) (stack : List String) (t : String) :
    room pages (t :: stack) ≤ room pages stack := by
  induction pages with
  | nil => simp [room]
  | cons p ps ih =>
    simp only [room, List.contains_cons]
    cases h1 : stack.contains p.1 <;> cases h2 : (p.1 == t) <;> simp <;> omega

theorem room_lt (pages : Pages) (stack : List String) (t : String) (body : List Doc)
    (hl : lookup pages t = some body) (hs : stack.contains t = false) :
    room pages (t :: stack) < room pages stack := by
  unfold lookup at hl
  induction pages with
  | nil => simp at hl
  | cons p ps ih =>
    simp only [List.find?_cons] at hl
    have hle := room_le ps stack t
    simp only [room, List.contains_cons]
    cases hp : (p.1 == t)
    · simp only [hp] at hl
      have := ih hl
      cases h1 : stack.contains p.1 <;> simp <;> omega
    · have hpt : p.1 = t := by simpa using hp
      rw [hpt, hs]
      simp
      omega

mutual
theorem expandIn_isSome (pages : Pages) (rec : Rec) (stack : List String)
    (hrec : ∀ t body, lookup pages t = some body → stack.contains t = false → (rec (t :: stack) body).isSome) :
    ∀ d : Doc, (expandIn pages rec stack d).isSome
  | .node id cs => by
    obtain ⟨r, hr⟩ := Option.isSome_iff_exists.1 (expandInL_isSome pages rec stack hrec cs)
    simp only [expandIn, hr, Option.isSome_some]
  | .inc id target => by
    simp only [expandIn]
    cases hb : lookup pages target with
    | none => rfl
    | some body =>
      cases hc : stack.contains target with
      | true => rfl
      | false =>
        obtain ⟨r, hr⟩ := Option.isSome_iff_exists.1 (hrec target body hb hc)
        simp only [hr, Bool.false_eq_true, if_false, Option.isSome_some]
theorem expandInL_isSome (pages : Pages) (rec : Rec) (stack : List String)
    (hrec : ∀ t body, lookup pages t = some body → stack.contains t = false → (rec (t :: stack) body).isSome) :
    ∀ ds : List Doc, (expandInL pages rec stack ds).isSome
  | [] => rfl
  | d :: ds => by
    obtain ⟨r1, h1⟩ := Option.isSome_iff_exists.1 (expandIn_isSome pages rec stack hrec d)
    obtain ⟨r2, h2⟩ := Option.isSome_iff_exists.1 (expandInL_isSome pages rec stack hrec ds)
    simp only [expandInL, h1, h2, Option.isSome_some]
end

theorem expandFuel_isSome (pages : Pages) : ∀ (fuel : Nat) (stack : List String) (body : List Doc),
    room pages stack < fuel → (expandFuel pages fuel stack body).isSome
  | 0, _, _, h => by omega
  | fuel + 1, stack, body, h => by
    simp only [expandFuel]
    apply expandInL_isSome
    intro t b hl hs
    apply expandFuel_isSome pages fuel
    have := room_lt pages stack t b hl hs
    omega

mutual
/-- the files named by include directives anywhere in a document -/
def targets : Doc → List String
  | .node _ cs => targetsL cs
  | .inc _ t => [t]
def targetsL : List Doc → List String
  | [] => []
  | d :: ds => targets d ++ targetsL ds
end

/-- `rank` witnesses acyclicity: every include of an existing file goes to a strictly smaller rank -/
def Acyclic (pages : Pages) (rank : String → Nat) : Prop :=
  ∀ f body, lookup pages f = some body → ∀ t ∈ targetsL body, (lookup pages t).isSome → rank t < rank f

def Diag.isCircular : Diag → Bool
  | .circular _ _ => true
  | .cannotOpen _ _ => false

theorem acyclic_of_forall_mem {pages : Pages} {rank : String → Nat}
    (h : ∀ p ∈ pages, ∀ t ∈ targetsL p.2, (lookup pages t).isSome → rank t < rank p.1) : Acyclic pages rank := by
  intro f body hl
  obtain ⟨p, hp, rfl⟩ := Option.map_eq_some_iff.1 hl
  have hf : p.1 = f := by simpa using List.find?_some hp
  exact hf ▸ h p (List.mem_of_find?_eq_some hp)

/-- every file on the stack has a rank above `r` -/
def Above (rank : String → Nat) (r : Nat) (stack : List String) : Prop := ∀ s ∈ stack, r ≤ rank s

mutual
theorem expandIn_no_cycle (pages : Pages) (rank : String → Nat) (rec : Rec) (stack : List String) (r : Nat)
    (hab : Above rank r stack)
    (hrec : ∀ t body res, lookup pages t = some body → rank t < r → rec (t :: stack) body = some res →
      res.2.all (fun d => !d.isCircular) = true) :
    ∀ (d : Doc) (res : Out × List Diag), (∀ t ∈ targets d, (lookup pages t).isSome → rank t < r) →
      expandIn pages rec stack d = some res → res.2.all (fun d => !d.isCircular) = true
  | .node id cs, res, ht, h => by
    simp only [expandIn] at h
    split at h
    · cases h
    · rename_i r' hr'
      cases h
      exact expandInL_no_cycle pages rank rec stack r hab hrec cs r' ht hr'
  | .inc id target, res, ht, h => by
    simp only [expandIn] at h
    split at h
    · cases h; rfl
    · rename_i body hb
      have hlt : rank target < r := ht target (.head _) (by rw [hb]; rfl)
      split at h
      · -- the target is on the stack: impossible, its rank is below everything on the stack
        rename_i hc
        have := hab target (List.contains_iff_mem.1 hc)
        omega
      · split at h
        · cases h
        · rename_i r' hr'
          cases h
          exact hrec target body r' hb hlt hr'
theorem expandInL_no_cycle (pages : Pages) (rank : String → Nat) (rec : Rec) (stack : List String) (r : Nat)
    (hab : Above rank r stack)
    (hrec : ∀ t body res, lookup pages t = some body → rank t < r → rec (t :: stack) body = some res →
      res.2.all (fun d => !d.isCircular) = true) :
    ∀ (ds : List Doc) (res : List Out × List Diag), (∀ t ∈ targetsL ds, (lookup pages t).isSome → rank t < r) →
      expandInL pages rec stack ds = some res → res.2.all (fun d => !d.isCircular) = true
  | [], res, _, h => by cases h; rfl
  | d :: ds, res, ht, h => by
    simp only [expandInL] at h
    split at h
    · cases h
    · rename_i r1 h1
      split at h
      · cases h
      · rename_i r2 h2
        cases h
        rw [List.all_append, expandIn_no_cycle pages rank rec stack r hab hrec d r1
            (fun t htm => ht t (List.mem_append_left _ htm)) h1,
          expandInL_no_cycle pages rank rec stack r hab hrec ds r2
            (fun t htm => ht t (List.mem_append_right _ htm)) h2]
        rfl
end

theorem expandFuel_no_cycle (pages : Pages) (rank : String → Nat) (hac : Acyclic pages rank) :
    ∀ (fuel : Nat) (stack : List String) (f : String) (body : List Doc) (res : List Out × List Diag),
      lookup pages f = some body → Above rank (rank f) (f :: stack) →
      expandFuel pages fuel (f :: stack) body = some res → res.2.all (fun d => !d.isCircular) = true
  | 0, _, _, _, _, _, _, h => by simp [expandFuel] at h
  | fuel + 1, stack, f, body, res, hl, hab, h => by
    simp only [expandFuel] at h
    apply expandInL_no_cycle pages rank (expandFuel pages fuel) (f :: stack) (rank f) hab _ body res
      (fun t ht hs => hac f body hl t ht hs) h
    intro t b r' hb hlt hr'
    apply expandFuel_no_cycle pages rank hac fuel (f :: stack) t b r' hb _ hr'
    intro s hs
    rcases List.mem_cons.1 hs with rfl | hs
    · exact Nat.le_refl _
    · have := hab s hs
      omega

end SnootyVerif.Include
