import SnootyVerif.Proofs.Cache

/-!
# C11 — The parse cache is transparent: cached builds equal clean builds

Model in `Model/Cache.lean`, helper lemmas in `Proofs/Cache.lean`.

The main theorem REDUCES transparency (for every initial disk content and every history of edits)
to one obligation on the parser, `DepsCoverReads`: every path whose content or existence a parse
looked at is recorded in `page.dependencies` (paths found missing included). That obligation is
checked on the implementation by the harness (audited file access of every generated parse), and
`transparency_needs_deps` shows it cannot be dropped.
-/
namespace SnootyVerif.C11
open SnootyVerif.Cache

deriving instance DecidableEq for Except

section
variable {Page H K : Type} [DecidableEq H] [DecidableEq K]

/-- TRANSPARENCY. For every parser obeying its footprint law and recording everything it reads,
and collision-free `srcKey` (on sources that read cleanly) / `hash`: a cache saved after building the pages `ps₀` of disk `e₀`,
used after ANY history of writes / creations / deletions, on ANY list of source files `ps` found
then, yields exactly the clean build (same pages and diagnostics, or the same error). -/
theorem cache_transparent (srcKey : Bytes → K × Bool) (hash : Bytes → H)
    (hK : KeyInjective srcKey) (hH : Function.Injective hash)
    (P : ParseFn Page) (hdeps : DepsCoverReads P)
    (spec : List String) (e₀ : Env) (ps₀ : List FileId) (history : List Edit) (ps : List FileId) :
    buildWithCache srcKey hash P (saveAt srcKey hash P spec e₀ ps₀) (applyHistory e₀ history) ps
      = buildClean P (applyHistory e₀ history) ps :=
  buildWithCache_of_sound hK hH hdeps (saveAt_sound spec ps₀)

/-- A hit implies: the source key matches the key the entry is stored under, the entry unpickled,
it is cacheable, a source that was read with diagnostics is itself among the recorded dependencies,
and EVERY recorded dependency is readable now with exactly the recorded hash. -/
theorem hit_requires_all_deps (srcKey : Bytes → K × Bool) (hash : Bytes → H) (c : CacheData Page H K)
    (e : Env) (p : FileId) (pg : Page) (h : lookup srcKey hash c e p = .ok (some pg)) :
    ∃ b ent ds, e p = some b ∧
      find (p, (srcKey b).1) c.pages = some (some ent) ∧ ent.page = pg ∧
      ent.deps = some ds ∧ ((srcKey b).2 = true ∨ ∃ d ∈ ds, d.1 = p) ∧
      ∀ d ∈ ds, ∃ b', e d.1 = some b' ∧ d.2 = some (hash b') := by
  obtain ⟨b, ent, hb, hf, hpg, hself, hc⟩ := lookup_hit h
  obtain ⟨ds, hd, hall⟩ := checkCache_iff.mp hc
  exact ⟨b, ent, ds, hb, hf, hpg, hd, hself.imp_right fun hs => selfDep_some.mp (hd ▸ hs), hall⟩

/-- `dependencies = None` (mark_uncacheable), entries that fail to unpickle, and a source read with
diagnostics against an entry without self-dependency never hit. -/
theorem uncacheable_or_corrupt_entry_misses (srcKey : Bytes → K × Bool) (hash : Bytes → H)
    (c : CacheData Page H K) (e : Env) (p : FileId) (b : Bytes) (hp : e p = some b)
    (h : find (p, (srcKey b).1) c.pages = some none ∨
         ∃ ent, find (p, (srcKey b).1) c.pages = some (some ent) ∧
           (ent.deps = none ∨ ((srcKey b).2 = false ∧ selfDep p ent.deps = false))) :
    lookup srcKey hash c e p = .ok none := by
  unfold lookup
  rw [hp]
  rcases h with h | ⟨ent, h, hd | hd⟩
  · simp [h]
  · simp [h, hd, checkCache, selfDep]
  · simp [h, hd]

/-- The specifier determines version, config and spec (given collision-free structural hashes). -/
theorem specifier_injective {Cfg Spec : Type} (hc : Cfg → String) (hs : Spec → String)
    (hcI : Function.Injective hc) (hsI : Function.Injective hs)
    (v v' : String) (cfg cfg' : Cfg) (s s' : Spec)
    (h : specifier v hc hs cfg s = specifier v' hc hs cfg' s') : v = v' ∧ cfg = cfg' ∧ s = s' := by
  simp only [specifier, List.cons.injEq, and_true] at h
  exact ⟨h.1, hcI h.2.1, hsI h.2.2⟩

/-- CORRUPTION. `loadFile` is total (an `Option`, it cannot raise); a file it rejects -- truncated,
overwritten, not a gzip, not a pickle of a `CacheData` -- and a missing file give the clean build. -/
theorem corrupt_cache_harmless (srcKey : Bytes → K × Bool) (hash : Bytes → H) (P : ParseFn Page)
    (decode : Bytes → Option (CacheData Page H K)) (cur : List String) (file : Option Bytes)
    (h : ∀ b, file = some b → loadFile decode cur b = none) (e : Env) (ps : List FileId) :
    buildWithCache srcKey hash P (readCache decode cur file) e ps = buildClean P e ps := by
  rw [readCache_of_rejected h]
  exact buildWithCache_empty

/-- SPECIFIER GUARD. A cache file whose specifier differs from the current one (other version, config
or spec) is ignored as a whole: the build equals the clean build whatever the file holds. -/
theorem specifier_guard (srcKey : Bytes → K × Bool) (hash : Bytes → H) (P : ParseFn Page)
    (decode : Bytes → Option (CacheData Page H K)) (cur : List String) (b : Bytes)
    (d : CacheData Page H K) (hd : decode b = some d) (hne : d.specifier ≠ cur)
    (e : Env) (ps : List FileId) :
    loadFile decode cur b = none ∧
    buildWithCache srcKey hash P (readCache decode cur (some b)) e ps = buildClean P e ps := by
  have h1 : loadFile decode cur b = none := by simp [loadFile, hd, hne]
  exact ⟨h1, corrupt_cache_harmless srcKey hash P decode cur (some b) (fun _ hb => Option.some.inj hb ▸ h1) e ps⟩

/-- END TO END with `nohash` fields. `structural_hash` skips dataclass fields marked `nohash`, so the config hash is a
collision-free hash of a PROJECTION `π` of the configuration, not of all of it; the parser reads the configuration through
another projection `ρ` (the fields a parse looks at). Transparency holds for every configuration edit and every history
provided every field a parse reads is hashed: `π c = π c' → ρ c = ρ c'` (checked on the implementation by the
configuration-read audit: the ProjectConfig fields read during parsing vs. the `nohash` metadata). -/
theorem cache_file_transparent_nohash {Cfg CfgH CfgR Spec : Type} (srcKey : Bytes → K × Bool) (hash : Bytes → H)
    (hK : KeyInjective srcKey) (hH : Function.Injective hash)
    (π : Cfg → CfgH) (ρ : Cfg → CfgR) (hcover : ∀ c c', π c = π c' → ρ c = ρ c')
    (hc : CfgH → String) (hs : Spec → String)
    (hcI : Function.Injective hc) (hsI : Function.Injective hs)
    (P : String → CfgR → Spec → ParseFn Page) (hdeps : ∀ v c s, DepsCoverReads (P v c s))
    (encode : CacheData Page H K → Bytes) (decode : Bytes → Option (CacheData Page H K))
    (hround : ∀ d, decode (encode d) = some d)
    (v₀ v : String) (c₀ c : Cfg) (s₀ s : Spec)
    (e₀ : Env) (ps₀ : List FileId) (history : List Edit) (ps : List FileId) :
    buildWithCache srcKey hash (P v (ρ c) s)
        (readCache decode (specifier v (hc ∘ π) hs c s)
          (some (encode (saveAt srcKey hash (P v₀ (ρ c₀) s₀) (specifier v₀ (hc ∘ π) hs c₀ s₀) e₀ ps₀))))
        (applyHistory e₀ history) ps
      = buildClean (P v (ρ c) s) (applyHistory e₀ history) ps :=
  buildWithCache_readCache hK hH (hdeps _ _ _) (hround _) fun hspec => by
    -- `specifier v (hc ∘ π) hs c s` is `specifier v hc hs (π c) s`
    obtain ⟨rfl, hcfg, rfl⟩ := specifier_injective hc hs hcI hsI v₀ v (π c₀) (π c) s₀ s hspec
    rw [← hcover _ _ hcfg]
    exact saveAt_sound _ ps₀

/-- END TO END through the cache FILE. The parser depends on (version, config, spec) `w`; the file
was written by `create-cache` under `w₀` on disk `e₀`; it is read under ANY `w` after ANY history.
Whatever the file decodes to under a different specifier is irrelevant; under the same specifier
`decode` returns what was persisted (pickle/gzip round trip, assumed). -/
theorem cache_file_transparent {Cfg Spec : Type} (srcKey : Bytes → K × Bool) (hash : Bytes → H)
    (hK : KeyInjective srcKey) (hH : Function.Injective hash)
    (hc : Cfg → String) (hs : Spec → String)
    (hcI : Function.Injective hc) (hsI : Function.Injective hs)
    (P : String → Cfg → Spec → ParseFn Page) (hdeps : ∀ v c s, DepsCoverReads (P v c s))
    (encode : CacheData Page H K → Bytes) (decode : Bytes → Option (CacheData Page H K))
    (hround : ∀ d, decode (encode d) = some d)
    (v₀ v : String) (c₀ c : Cfg) (s₀ s : Spec)
    (e₀ : Env) (ps₀ : List FileId) (history : List Edit) (ps : List FileId) :
    buildWithCache srcKey hash (P v c s)
        (readCache decode (specifier v hc hs c s)
          (some (encode (saveAt srcKey hash (P v₀ c₀ s₀) (specifier v₀ hc hs c₀ s₀) e₀ ps₀))))
        (applyHistory e₀ history) ps
      = buildClean (P v c s) (applyHistory e₀ history) ps :=
  cache_file_transparent_nohash srcKey hash hK hH id id (fun _ _ h => h) hc hs hcI hsI P hdeps
    encode decode hround v₀ v c₀ c s₀ s e₀ ps₀ history ps

end

/-! ## Non-vacuity: a 2-file toy parser (page `a` shows the content of `b`, like a literalinclude) -/

/-- page = (own bytes, bytes of `b` if the page is `a`) -/
def toy : ParseFn (Option Bytes × Option Bytes) where
  parse e p := if p = "a" then (e "a", e "b") else (e p, none)
  reads e p := if p = "a" then ["a", "b"] else [p]
  deps _ p := some (if p = "a" then ["b"] else [])
  footprint := by
    intro e e' p h
    by_cases hp : p = "a"
    · subst hp
      simp only [if_true] at h ⊢
      simp [h "a" (by simp), h "b" (by simp)]
    · simp only [hp, if_false] at h ⊢
      simp [h p (by simp)]

theorem toy_deps_cover : DepsCoverReads toy := by
  intro e p ds hds f hf
  by_cases hp : p = "a"
  · subst hp
    simp only [toy, if_true, Option.some.injEq] at hds hf
    subst hds
    simpa using hf
  · simp only [toy, hp, if_false] at hf
    simp at hf
    exact Or.inl hf

/-- the same parser, but it does NOT record `b` (the shape of the untracked `:doc:` / image
existence checks of the unfixed code) -/
def toyForgetful : ParseFn (Option Bytes × Option Bytes) :=
  { toy with deps := fun _ _ => some [] }

def disk₀ : Env := fun f => if f = "a" then some [1] else none

/-- hypotheses of `cache_transparent` are satisfiable, and on this instance the cached build really
serves from the cache when nothing relevant changed (a hit), and really re-parses when `b` appears -/
example : buildWithCache (K := Bytes) (H := Bytes) (fun b => (b, true)) id toy (saveAt (fun b => (b, true)) id toy [] disk₀ ["a"])
    (applyHistory disk₀ [("b", some [7])]) ["a"] = .ok [("a", (some [1], some [7]))] := by decide +kernel

example : lookup (K := Bytes) (H := Bytes) (fun b => (b, true)) id (saveAt (fun b => (b, true)) id toy [] disk₀ ["a"])
    (applyHistory disk₀ [("b", some [7]), ("b", none)]) "a" = .ok none := by decide +kernel

example : lookup (K := Bytes) (H := Bytes) (fun b => (b, true)) id
    (saveAt (fun b => (b, true)) id toy [] (applyHistory disk₀ [("b", some [7])]) ["a"])
    (applyHistory disk₀ [("b", some [7]), ("c", some [0])]) "a" = .ok (some (some [1], some [7])) := by decide +kernel

example : ∀ h ps, buildWithCache (K := Bytes) (H := Bytes) (fun b => (b, true)) id toy (saveAt (fun b => (b, true)) id toy [] disk₀ ["a"])
    (applyHistory disk₀ h) ps = buildClean toy (applyHistory disk₀ h) ps :=
  fun h ps => cache_transparent (fun b => (b, true)) id (fun _ _ _ _ h => h) (fun _ _ h => h) toy toy_deps_cover [] disk₀ ["a"] h ps

/-- THE OBLIGATION CANNOT BE DROPPED (defect D12 in miniature): a parser that looks at `b` without
recording it gives a cached build that differs from the clean build once `b` is created. -/
theorem transparency_needs_deps :
    buildWithCache (K := Bytes) (H := Bytes) (fun b => (b, true)) id toyForgetful (saveAt (fun b => (b, true)) id toyForgetful [] disk₀ ["a"])
      (applyHistory disk₀ [("b", some [7])]) ["a"]
    ≠ buildClean toyForgetful (applyHistory disk₀ [("b", some [7])]) ["a"] := by decide +kernel

/-- A FIELD THE PARSER READS MUST BE HASHED: configuration = (hashed flag, unhashed flag); a parser that shows the
UNHASHED flag on the page is served the stale page from the cache after that flag is edited (the specifier is the same),
while the clean build shows the new value. With `π = ρ` (the flag is hashed) the theorem above applies. -/
def cfgToy (flag : Bool) : ParseFn (Option Bytes × Bool) where
  parse e p := (e p, flag)
  reads _ p := [p]
  deps _ _ := some []
  footprint := by
    intro e e' p h
    simp [h p (by simp)]

theorem unhashed_config_read_refuted :
    let π : Bool × Bool → Bool := Prod.fst
    let spec := fun (c : Bool × Bool) => specifier "v" ((fun b => toString b) ∘ π) (fun (_ : Unit) => "s") c ()
    spec (true, false) = spec (true, true) ∧
    buildWithCache (K := Bytes) (H := Bytes) (fun b => (b, true)) id (cfgToy true)
        (readCache (fun _ => some (saveAt (fun b => (b, true)) id (cfgToy false) (spec (true, false)) disk₀ ["a"])) (spec (true, true)) (some []))
        disk₀ ["a"]
      ≠ buildClean (cfgToy true) disk₀ ["a"] := by decide +kernel

/-- specifier guard / corruption: concrete instances (a decoder that accepts only the byte string [1]) -/
example : loadFile (Page := Nat) (H := Bytes) (K := Bytes)
    (fun b => if b = [1] then some ⟨["v1", "c", "s"], []⟩ else none) ["v2", "c", "s"] [1] = none := by decide

example : (loadFile (Page := Nat) (H := Bytes) (K := Bytes)
    (fun b => if b = [1] then some ⟨["v1", "c", "s"], []⟩ else none) ["v1", "c", "s"] [1]).isSome = true := by decide

example : loadFile (Page := Nat) (H := Bytes) (K := Bytes)
    (fun b => if b = [1] then some ⟨["v1", "c", "s"], []⟩ else none) ["v1", "c", "s"] [] = none := by decide

end SnootyVerif.C11
