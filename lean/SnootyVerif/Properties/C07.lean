import SnootyVerif.Proofs.Subst
import SnootyVerif.Proofs.SubstWalk
import SnootyVerif.Proofs.SubstCtx

/-!
# C07 — Substitutions and source constants resolve by the documented scoping rules
-/
namespace SnootyVerif.C07
open SnootyVerif.Subst

/-! ### scoping order (decision logic of `_search`) -/

/-- 1. a replacement on the innermost enclosing include wins over everything else -/
theorem replacement_first (top defs proj : Table) (name : String) (b : Body)
    (h : tget top name = some b) : lookupOrder (some top) defs proj name = some b := by
  simp [lookupOrder, h]

/-- 2. otherwise a (non-empty) definition on the page wins over snooty.toml -/
theorem page_before_project (top : Option Table) (defs proj : Table) (name : String) (b : Item) (bs : Body)
    (ht : top.bind (tget · name) = none) (hd : tget defs name = some (b :: bs)) :
    lookupOrder top defs proj name = some (b :: bs) := by
  simp [lookupOrder, ht, hd]

/-- 3. otherwise the project-wide substitution -/
theorem project_fallback (top : Option Table) (defs proj : Table) (name : String)
    (ht : top.bind (tget · name) = none) (hd : tget defs name = none ∨ tget defs name = some []) :
    lookupOrder top defs proj name = tget proj name := by
  rcases hd with hd | hd <;> simp [lookupOrder, ht, hd]

/-- only the INNERMOST include's table is consulted (an outer include's replacement does not reach
into a nested include) -/
theorem only_innermost_table (inner outer defs proj : Table) (name : String)
    (hi : tget inner name = none) :
    lookupOrder ((inner :: [outer]).head?) defs proj name = lookupOrder none defs proj name := by
  simp [lookupOrder, hi]

/-- the latest definition of a name on the page replaces the earlier one; other names are untouched -/
theorem latest_definition_wins (defs : Table) (name : String) (b1 b2 : Body) :
    tget (tset (tset defs name b1) name b2) name = some b2 := by rw [tget_tset, if_pos rfl]

theorem definition_does_not_touch_others (defs : Table) (name other : String) (b : Body) (h : name ≠ other) :
    tget (tset defs name b) other = tget defs other := by rw [tget_tset, if_neg h]

/-! ### page level: definitions, uses, deferral, diagnostics -/

/-- a definition with a plain-text body is recorded, and leaves the rest of the handler state alone -/
theorem defn_recorded (proj : Table) (fuel : Nat) (st : St) (name : String) (body : Body) (evs : List Ev)
    (acc : Uses) (hb : allTxt body = true) (hs : st.seen = none) :
    runEvents proj fuel st (.defn name body :: evs) acc
      = runEvents proj fuel { st with defs := tset st.defs name body } evs acc := by
  simp only [runEvents, walk_txt hb, tget_tset, if_true, tset_tset]
  -- `seen` is `none` again, as it was
  rw [← hs]

/-- a use outside any definition, whose name resolves (by `lookupOrder`) to a plain-text body, holds a
copy of exactly that body, produces no diagnostic and leaves the handler state unchanged -/
theorem use_holds_selected_definition (proj : Table) (fuel : Nat) (st : St) (name : String) (line : Nat)
    (body : Body) (evs : List Ev) (acc : Uses)
    (hs : st.seen = none) (ha : st.active.contains name = false)
    (hl : lookupOrder st.stack.head? st.defs proj name = some body) (hb : allTxt body = true) :
    runEvents proj (fuel + 1) st (.use line name :: evs) acc
      = runEvents proj (fuel + 1) st evs (acc ++ [(line, .ref name line false body)]) := by
  simp only [runEvents, walkItems_ref_found hs ha hl, walk_txt hb, walkItems_nil]
  -- leaving `name` restores the path
  rfl

/-- a use whose name resolves nowhere at that point is queued; nothing else changes -/
theorem use_deferred (proj : Table) (fuel : Nat) (st : St) (name : String) (line : Nat)
    (evs : List Ev) (acc : Uses)
    (hs : st.seen = none) (ha : st.active.contains name = false)
    (hl : lookupOrder st.stack.head? st.defs proj name = none) :
    runEvents proj (fuel + 1) st (.use line name :: evs) acc
      = runEvents proj (fuel + 1) { st with pending := st.pending ++ [(name, st.file, line)] } evs
          (acc ++ [(line, .ref name line true [])]) := by
  simp only [runEvents, walkItems_ref_pending hs ha hl, walkItems_nil]
  rfl

/-- at the end of the page a queued reference shows the definition that appears LATER on the page … -/
theorem deferred_gets_later_definition (defs : Table) (fuel : Nat) (name : String) (line : Nat) (body : Body)
    (hd : tget defs name = some body) (hb : allTxt body = true) :
    finalText defs (fuel + 1) (.ref name line true []) = String.join (body.map (finalText defs fuel)) := by
  simp [finalText, hd]

/-- … and a name defined nowhere yields exactly one "could not be replaced" diagnostic, filed under the
file and line of the reference -/
theorem undefined_reported (st : St) (name file : String) (line : Nat)
    (hp : st.pending = [(name, file, line)]) (hd : tget st.defs name = none) :
    pageEndDiags st = st.diags ++ [⟨file, .unresolved, line⟩] := by
  simp [pageEndDiags, hp, hd]

/-- a queued name that IS defined by the end of the page yields no diagnostic -/
theorem defined_later_not_reported (st : St) (name file : String) (line : Nat) (b : Body)
    (hp : st.pending = [(name, file, line)]) (hd : tget st.defs name = some b) :
    pageEndDiags st = st.diags := by
  simp [pageEndDiags, hp, hd]

/-! ### self- and mutually-referential definitions terminate and are reported (static environment) -/

/-- expansion against project-wide substitutions terminates for EVERY table (cycles of any length):
the fuel `#names + 2` is never exhausted -/
theorem static_terminates (env : Table) (name : String) (line : Nat) : (useStatic env name line).isSome := by
  unfold useStatic
  apply expandStatic_isSome
  omega

/-- The general executable walk `walkItems` - the model that is compared with the real handler on every
generated project - computes exactly the static kernel on a page without definitions and include
replacements (parser-fresh references), so it terminates there too, for every project table, with the
same expanded items, the circular diagnostics filed under the current file and the unresolved
references queued for the end of the page. -/
theorem walk_eq_static_and_terminates (proj : Table) (hf : freshEnv proj) (st : St) (hp : Plain st)
    (ha : st.active = []) (name : String) (line : Nat) :
    ∃ r, useStatic proj name line = some r ∧
      walkItems proj (sroom proj [] + 2) st [.ref name line false []] = some (After st r.2, r.1) := by
  obtain ⟨r, hr⟩ := Option.isSome_iff_exists.1 (static_terminates proj name line)
  exact ⟨r, hr, walk_of_static proj hf _ st _ r hp rfl (by rw [ha]; exact hr)⟩

/-- a reference to a name that is being expanded is reported as circular and left empty -/
theorem static_cycle_reported (env : Table) (rec : SRec) (path : List String) (name : String) (line : Nat)
    (pend : Bool) (cs : List Item) (h : path.contains name = true) :
    expandLevel env rec path [.ref name line pend cs]
      = some ([.ref name line false []], [.circular name line]) := by
  simp only [expandLevel, h, if_true]

/-- an undefined name is reported as unresolved -/
theorem static_undefined_reported (env : Table) (rec : SRec) (path : List String) (name : String) (line : Nat)
    (pend : Bool) (cs : List Item) (h : path.contains name = false) (hl : tget env name = none) :
    expandLevel env rec path [.ref name line pend cs]
      = some ([.ref name line true []], [.unresolved name line]) := by
  simp only [expandLevel, h, hl, Bool.false_eq_true, if_false]

/-- before the fix (no path guard) `a = "x |a|"` exhausted every fuel: RecursionError -/
theorem staticOld_diverges (fuel : Nat) :
    (∀ path l, expandStaticOld [("a", [.txt "x", .ref "a" 0 false []])] fuel path [.ref "a" l false []] = none) ∧
    (∀ path, expandStaticOld [("a", [.txt "x", .ref "a" 0 false []])] fuel path [.txt "x", .ref "a" 0 false []] = none) :=
  expandStaticOld_self _ "a" "x" 0 rfl fuel

/-- non-vacuity: a 2-cycle in snooty.toml, used once -/
example : (useStatic [("a", [.txt "x", .ref "b" 0 false []]), ("b", [.ref "a" 0 false [], .txt "y"])] "a" 7).map (·.2)
    = some [.circular "a" 0] := by
  decide +kernel

/-! ### `{+constant+}` substitution -/

/-- substitution never changes the number of lines (so it shifts no later line), provided no constant
value contains a newline; `\w` must not match a newline (checked on the running Python) -/
theorem constants_line_preserving (isWord : Char → Bool) (hnl : isWord '\n' = false)
    (consts : List (List Char × List Char)) (hc : ∀ p ∈ consts, nlCount p.2 = 0) (s : List Char) (line : Nat) :
    nlCount (substConsts isWord consts (s.length + 1) line s).1 = nlCount s :=
  substConsts_nl isWord hnl consts hc _ _ _ (by omega)

/-- a multi-line constant value DOES shift lines (outside the property's input space; recorded) -/
theorem constants_multiline_shifts :
    nlCount (substConsts (fun c => c.isAlphanum) [(['a'], ['x', '\n', 'y'])] 10 0 ['{', '+', 'a', '+', '}']).1 = 1 := by
  decide +kernel

/-- an undeclared constant becomes U+200B and is reported at the zero-based line of its placeholder -/
theorem constants_unknown_reported (isWord : Char → Bool) (hplus : isWord '+' = false)
    (consts : List (List Char × List Char)) (name post : List Char) (line fuel : Nat)
    (hne : name ≠ []) (hname : ∀ c ∈ name, isVarChar isWord c = true)
    (hunk : consts.find? (·.1 == name) = none) :
    substConsts isWord consts (fuel + 1) line ('{' :: '+' :: (name ++ '+' :: '}' :: post))
      = ('​' :: (substConsts isWord consts fuel line post).1,
         (name, line) :: (substConsts isWord consts fuel line post).2) := by
  simp only [substConsts, matchVar_placeholder isWord hplus name post hne hname, hunk]

/-- text before a placeholder that contains no '{' is copied unchanged and advances the line count -/
theorem constants_prefix_copied (isWord : Char → Bool) (consts : List (List Char × List Char))
    (c : Char) (t : List Char) (line fuel : Nat) (h : c ≠ '{') :
    substConsts isWord consts (fuel + 1) line (c :: t)
      = (c :: (substConsts isWord consts fuel (if c == '\n' then line + 1 else line) t).1,
         (substConsts isWord consts fuel (if c == '\n' then line + 1 else line) t).2) := by
  simp only [substConsts, matchVar_none_of_head isWord c t h]

/-- non-vacuity: unknown constant on the third line -/
example : (substConsts (fun c => c.isAlphanum) [] 20 0 "a\n\n{+zz+}b".toList).2 = [(['z', 'z'], 2)] := by
  decide +kernel

/-! ### block / inline context adaptation (`extract_inline`, `search_inline`, `search_block`; Model/SubstCtx.lean) -/
section Context
open SnootyVerif.SubstCtx

/-- `extract_inline` is total: its `nodes[0]` subscript is never reached with an empty list (an empty definition
satisfies the `all(...)` test before it), so no definition makes the substitution pass raise IndexError. -/
theorem extract_inline_total (ns : List Node) : ∃ r, extractInline ns = .ok r := extractInline_ok ns

/-- what `extract_inline` returns is exactly: the definition itself when it is inline throughout, the children of its
single paragraph when that paragraph is inline throughout - and nothing else. -/
theorem extract_inline_spec (ns out : List Node) :
    extractInline ns = .ok (some out) ↔
      (ns.all Node.isInline = true ∧ out = ns) ∨
      (ns.all Node.isInline = false ∧ ∃ id, ns = [.para id out] ∧ out.all Node.isInline = true) := by
  constructor
  · exact extractInline_some
  · rintro (⟨h, rfl⟩ | ⟨_, id, rfl, h⟩)
    · exact extractInline_of_inline h
    · exact extractInline_of_para h

/-- **Inline context is never given block content.** Whatever children `search_inline` puts under an inline
`|name|` reference are non-empty and inline nodes only, and they are the definition or the content of its single
paragraph. -/
theorem inline_context_sound (defn cs : List Node) (h : searchInline defn = .ok (.children cs)) :
    cs ≠ [] ∧ cs.all Node.isInline = true ∧ (cs = defn ∨ ∃ id, defn = [.para id cs]) := by
  unfold searchInline at h
  split at h
  · cases h
  · next c r he =>
    cases h
    rcases extractInline_some he with ⟨ha, hd⟩ | ⟨_, id, hd, ha⟩
    · exact ⟨List.cons_ne_nil _ _, hd ▸ ha, .inl hd⟩
    · exact ⟨List.cons_ne_nil _ _, ha, .inr ⟨id, hd⟩⟩
  · cases h

/-- **Block content substituted into inline context is reported.** A definition holding a block-level node, unless it
is one paragraph of inline nodes, gets the InvalidContextError diagnostic and the reference is left without children;
so does an empty definition (`if not substitution` is true for the empty list). -/
theorem block_in_inline_reported (defn : List Node) (h1 : defn.all Node.isInline = false)
    (h2 : ∀ id cs, defn = [.para id cs] → cs.all Node.isInline = false) :
    searchInline defn = .ok .invalidContext := by
  unfold searchInline
  rw [extractInline_none_of h1 h2]

theorem empty_in_inline_reported : searchInline [] = .ok .invalidContext := by rfl

/-- `search_inline` never raises. -/
theorem search_inline_total (defn : List Node) : ∃ r, searchInline defn = .ok r := by
  unfold searchInline
  obtain ⟨r, hr⟩ := extractInline_ok defn
  rw [hr]
  split
  · next h => cases h
  · exact ⟨_, rfl⟩
  · exact ⟨_, rfl⟩

example : searchInline [.inl 1, .inl 2] = .ok (.children [.inl 1, .inl 2]) := by rfl
example : searchInline [.para 0 [.inl 1, .inl 2]] = .ok (.children [.inl 1, .inl 2]) := by rfl
example : searchInline [.inl 1, .blk 2] = .ok .invalidContext := by rfl
example : searchInline [.para 0 [.inl 1], .para 3 [.inl 2]] = .ok .invalidContext := by rfl
example : searchInline [.para 0 []] = .ok .invalidContext := by rfl

/-- **Block context: inline content is wrapped, nothing is lost or reordered.** The children `search_block` puts under
a block-level `|name|` reference hold no inline node at the top level; every paragraph it creates is non-empty and
inline throughout; no two created paragraphs are adjacent (adjacent inline nodes share one paragraph); and splicing the
created paragraphs back gives exactly the definition. -/
theorem block_context_wraps (defn : List Node) (hw : ∀ x ∈ defn, x.isWrap = false) :
    (∀ x ∈ searchBlock defn, x.isInline = false) ∧
    (∀ cs, Node.wrap cs ∈ searchBlock defn → cs ≠ [] ∧ cs.all Node.isInline = true) ∧
    noAdjacentWraps (searchBlock defn) = true ∧
    unwrap (searchBlock defn) = defn :=
  ⟨blockGo_no_inline defn [], blockGo_wraps defn [] rfl hw, blockGo_coalesced defn [] hw, unwrap_blockGo defn [] hw⟩

example : searchBlock [.inl 1, .inl 2, .blk 3, .para 4 [.inl 5], .inl 6] =
    [.wrap [.inl 1, .inl 2], .blk 3, .para 4 [.inl 5], .wrap [.inl 6]] := by rfl

end Context

end SnootyVerif.C07
