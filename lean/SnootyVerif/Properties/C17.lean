import SnootyVerif.Proofs.Walk

/-!
# C17 — Source discovery stays inside the project and terminates

Property theorems about `Model/Walk.lean` (`walk` mirrors `util.get_files` over
`os.walk(topdown, followlinks=True)`; the file system — listing order, what every name resolves to,
`inJail`, `hasToml` — is an input, so every symlink topology is covered). `res.scans` is the trace of resolved base
directories whose listing was processed.

Everything below is read off two facts of `Proofs/Walk.lean` that hold for every scan root: `walk_total` (with
`fs.fuel` the walk returns normally) and `walk_inv` (a normal result satisfies the loop invariant `Inv`). Only
`nested_reported` and `coverage` need the scan root to lie inside the jail.
-/
namespace SnootyVerif.C17
open SnootyVerif.Walk

variable {κ : Type} [DecidableEq κ]

/-- a scan root that links back to itself directly and from a subdirectory, an alias of a subdirectory,
a nested project `3`, a directory `5` and a file `50` outside the jail (the outside directory links back in) -/
def exFS : FS Nat :=
  { dirs := [(0, [⟨"a", .dir 1, false⟩, ⟨"l", .dir 0, false⟩, ⟨"x.txt", .file 10, true⟩, ⟨"out", .dir 5, false⟩,
                  ⟨"n", .dir 3, false⟩, ⟨"k.txt", .file 50, true⟩, ⟨"alias", .dir 1, false⟩, ⟨"w.md", .file 13, false⟩,
                  ⟨"d.txt", .dangling 14, true⟩]),
             (1, [⟨"y.txt", .file 11, true⟩, ⟨"up", .dir 0, false⟩, ⟨"self", .dir 1, false⟩]),
             (3, [⟨"z.txt", .file 12, true⟩]),
             (5, [⟨"o.txt", .file 50, true⟩, ⟨"back", .dir 0, false⟩])],
    inJail := fun c => c != 5 && c != 50,
    hasToml := fun c => c == 3 }

/-- a two-directory cycle: every unit of `FS.fuel` is used -/
def exCycle : FS Nat :=
  { dirs := [(0, [⟨"a", .dir 1, false⟩]), (1, [⟨"up", .dir 0, false⟩, ⟨"y.txt", .file 11, true⟩])],
    inJail := fun _ => true, hasToml := fun _ => false }

/-- **Termination.** With the scan root inside the jail, `fs.fuel` = (number of distinct canonical
directories some listed name resolves to) + 1 iterations always suffice — whatever the link topology
(cycles, links to the scan root, aliases): the walk never runs out of fuel. -/
theorem walk_fuel (fs : FS κ) (root : κ) (hroot : fs.inJail root = true) (fuel : Nat)
    (hf : fs.fuel ≤ fuel) : walk fs root fuel ≠ .error .fuel := by
  obtain ⟨res, h⟩ := walk_total fs root hf
  simp [h]

/-- A scan root that resolves OUTSIDE the jail (the source directory is itself a link to a directory elsewhere): the walk
comes back at once with nothing - whatever that directory holds, links to itself included (`dirs[:] = []` before the
`continue`; the code before the fix left `dirs` alone and `os.walk`, which keeps no record of where it has been, went round
2^depth times). -/
theorem walk_root_outside_jail (fs : FS κ) (root : κ) (hroot : fs.inJail root = false) (fuel : Nat) :
    walk fs root (fuel + 1) = .ok St.init := by
  simp [walk, loop, step_dead hroot]

/-- **Termination, for every scan root**: `fs.fuel` iterations suffice whether or not the root lies inside the jail. -/
theorem walk_terminates (fs : FS κ) (root : κ) : walk fs root fs.fuel ≠ .error .fuel := by
  obtain ⟨res, h⟩ := walk_total fs root (Nat.le_refl _)
  simp [h]

example : walk exFS 0 exFS.fuel ≠ .error .fuel := walk_fuel exFS 0 (by decide) _ (Nat.le_refl _)
/-- the source directory linked to a content directory outside the jail which holds two links to itself -/
example : walk ({ dirs := [(9, [⟨"latest", .dir 9, false⟩, ⟨"current", .dir 9, false⟩, ⟨"page.txt", .file 90, true⟩])],
                  inJail := fun c => c != 9 && c != 90, hasToml := fun _ => false } : FS Nat) 9 1 = .ok St.init :=
  walk_root_outside_jail _ 9 (by decide) 0
/-- the bound is attained (one unit less and the model does run out), so the theorem is not about a slack bound -/
example : (match walk exCycle 0 (exCycle.fuel - 1) with | .error .fuel => true | _ => false) = true := by decide +kernel

/-- … and it returns normally, for every file system: a wanted name that is a self-referential link
(`Kind.loop`; `Path.resolve()` raises `RuntimeError`/`OSError`) is skipped by the `except` clause of the repaired
`get_files` (71ff38c), so nothing a listing can contain makes the scan raise. -/
theorem walk_ok (fs : FS κ) (root : κ) (hroot : fs.inJail root = true) :
    ∃ res, walk fs root fs.fuel = .ok res :=
  walk_total fs root (Nat.le_refl _)

/-- a wanted self-referential link next to a wanted file: skipped, the file is still yielded -/
example : (match walk ({ dirs := [(0, [⟨"k.txt", .loop, true⟩, ⟨"x.txt", .file 10, true⟩])],
                         inJail := fun _ => true, hasToml := fun _ => false } : FS Nat) 0 1 with
           | .ok st => st.out | _ => []) = [(["x.txt"], 10)] := by decide +kernel

example : (match walk exFS 0 exFS.fuel with | .ok st => st.out | _ => []) =
    [(["x.txt"], 10), (["d.txt"], 14), (["alias", "y.txt"], 11), (["l", "x.txt"], 10), (["l", "d.txt"], 14)] := by decide +kernel

/-- **Each directory once.** Every canonical directory other than the scan root is scanned at most once,
the scan root at most twice (once as the root, once through a link: it is never put into `seen`
before the first link to it is met). -/
theorem visited_once (fs : FS κ) (root : κ) (hroot : fs.inJail root = true) (fuel : Nat) (res : St κ)
    (h : walk fs root fuel = .ok res) : ∀ c, res.scans.count c ≤ (if c = root then 2 else 1) :=
  scans_count_le (walk_inv h)

example : (match walk exFS 0 exFS.fuel with | .ok st => st.scans | _ => []) = [0, 1, 0] := by decide +kernel

/-- **Jail.** Everything yielded resolves inside the jail, and so does every directory whose listing
was processed (no hypothesis on the file system). -/
theorem jail (fs : FS κ) (root : κ) (fuel : Nat) (res : St κ) (h : walk fs root fuel = .ok res) :
    (∀ y ∈ res.out, fs.inJail y.2 = true) ∧ (∀ b ∈ res.scans, fs.inJail b = true) := by
  refine ⟨fun y hy => ?_, fun b hb => (scans_spec (walk_inv h) hb).1⟩
  obtain ⟨_, _, _, hy⟩ := (walk_inv h).out_spec y hy
  obtain ⟨_, _, _, _, hj, _⟩ := mem_yields.1 hy
  exact hj

example : ∀ y ∈ (match walk exFS 0 exFS.fuel with | .ok st => st.out | _ => []), y.2 ≠ 50 := by decide +kernel

/-- **No descent into nested projects.** Every yielded path is `p ++ [name]` where `name` is a wanted
non-directory entry of a directory reached from the scan root by a `Clean` path `p`: every directory on the
way (the scan root excepted) resolves inside the jail and is not `pruned` - it neither has a `snooty.toml` nor lies
inside a directory below the scan root that has one (`FS.inNested`: a link may lead into the middle of a nested
project). In particular no such directory is ever scanned. -/
theorem no_descent_into_nested (fs : FS κ) (root : κ) (hroot : fs.inJail root = true) (fuel : Nat) (res : St κ)
    (h : walk fs root fuel = .ok res) :
    (∀ y ∈ res.out, ∃ p b e, Clean fs root p b ∧ e ∈ fs.entries b ∧ y.1 = p ++ [e.name] ∧ e.wanted = true ∧
        (e.kind = .file y.2 ∨ e.kind = .dangling y.2)) ∧
    (∀ b ∈ res.scans, b = root ∨ fs.pruned b = false) := by
  refine ⟨fun y hy => ?_, fun b hb => (scans_spec (walk_inv h) hb).2⟩
  obtain ⟨p, b, hc, hy⟩ := (walk_inv h).out_spec y hy
  obtain ⟨e, he, hp, hw, _, hk⟩ := mem_yields.1 hy
  exact ⟨p, b, e, hc, he, hp, hw, hk⟩

example : (match walk exFS 0 exFS.fuel with | .ok st => decide (3 ∉ st.scans) | _ => false) = true := by decide +kernel

/-- **Nested projects are reported.** Every directory with a `snooty.toml` listed in a directory the walk
reaches cleanly gets a `NestedProject` diagnostic, and only directories with a `snooty.toml` get one. -/
theorem nested_reported (fs : FS κ) (root : κ) (hroot : fs.inJail root = true) (fuel : Nat) (res : St κ)
    (h : walk fs root fuel = .ok res) :
    (∀ p b e k, Clean fs root p b → e ∈ fs.entries b → e.kind = .dir k → fs.hasToml k = true →
        k ∈ res.diags.map (·.1)) ∧
    (∀ kd ∈ res.diags, fs.hasToml kd.1 = true) := by
  refine ⟨fun p b e k hc he hk ht => ?_, (walk_inv h).diags_toml⟩
  obtain ⟨_, _, _, _, hd⟩ := clean_scanned (walk_inv h) hroot hc
  exact (hd k (mem_dset_keys.2 ⟨e, he, hk⟩)).2 ht

example : (match walk exFS 0 exFS.fuel with | .ok st => st.diags | _ => []) = [(3, "n")] := by decide +kernel

/-- **Coverage.** If the walk returns normally, every wanted non-directory entry (in particular every
regular file) that resolves inside the jail and sits in a directory reachable from the scan root by a
`Clean` path — through directories *or links to directories* inside the jail, none below a nested
project — is yielded under some path. (Regular in-tree files reachable through real directories are the
special case where `inJail` holds automatically.) -/
theorem coverage (fs : FS κ) (root : κ) (hroot : fs.inJail root = true) (fuel : Nat) (res : St κ)
    (h : walk fs root fuel = .ok res) (p : Path) (b : κ) (hc : Clean fs root p b) (e : Entry κ)
    (he : e ∈ fs.entries b) (c : κ) (hk : e.kind = .file c ∨ e.kind = .dangling c) (hw : e.wanted = true)
    (hj : fs.inJail c = true) : ∃ q, (q, c) ∈ res.out := by
  obtain ⟨_, q, _, ho, _⟩ := clean_scanned (walk_inv h) hroot hc
  exact ⟨_, ho (q ++ [e.name], c) (mem_yields.2 ⟨e, he, rfl, hw, hj, hk⟩)⟩

/-- `y.txt` (canonical id 11) lives in directory `1`, which is only entered through the alias link -/
example : ∃ q, (q, 11) ∈ (match walk exFS 0 exFS.fuel with | .ok st => st.out | _ => []) := by
  obtain ⟨res, hres⟩ := walk_ok exFS 0 (by decide)
  have hcl : Clean exFS 0 ([] ++ ["a"]) 1 :=
    Clean.step (e := ⟨"a", .dir 1, false⟩) Clean.root (by decide) rfl (by decide) (by decide)
  obtain ⟨q, hq⟩ := coverage exFS 0 (by decide) _ res hres _ 1 hcl ⟨"y.txt", .file 11, true⟩ (by decide) 11
    (Or.inl rfl) rfl (by decide)
  exact ⟨q, by rw [hres]; exact hq⟩

end SnootyVerif.C17
