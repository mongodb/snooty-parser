import SnootyVerif.Proofs.Diag

/-!
# C14 — Diagnostics reach the user: complete, correctly attributed, filtered, counted

The model is the code *with* fix.patch applied for `__init__` / `main.Backend.on_update`
(both now pass through the silence filter, one spelling of snooty.toml); the behaviour
before the fix is kept as `onStreamOrig` for the refutation. `merge_diagnostics` is modelled WITH fix2.patch
(accumulate over all outputs of a source, each object once); the last-output-wins code before it is kept as
`mergeDiagnosticsOld` (`merge_conservation_refuted`).
-/
namespace SnootyVerif.C14
open SnootyVerif.Diag

/-- the generic tail of `merge_diagnostics`: per-source dict `base`, then orphan, then the other maps -/
theorem mergeFrom_exact (base : DMap) (orphan : DMap) (order : List FileId) (others : List DMap)
    (hn : order.Nodup) (hk : ∀ f, f ∈ order ↔ ∃ o ∈ others, f ∈ keys o) (f : FileId) :
    mergedAt (mergeFrom base orphan order others) f =
      mergedAt base f ++ getAll orphan f ++ extendFrom others f := by
  rw [mergedAt_mergeFrom, getAll_map_order _ _ _ hn]
  split
  · rfl
  · -- `f ∉ order`: by `hk` none of the other maps has the key, so they contribute nothing either
    rename_i h3
    rw [extendFrom_nil_of_not_mem others f fun o ho hm => h3 ((hk f).mpr ⟨o, ho, hm⟩)]

/-- What the fixed `merge_diagnostics` returns for file `f`, exactly, with no hypothesis on the producers:
the accumulation over ALL outputs of `f` (each object once, first-seen order), then the orphan diagnostics of `f`,
then `others[0][f]`, `others[1][f]`, … (`order` = iteration order of the key set). -/
theorem merge_exact (parsed : List Out) (orphan : DMap) (order : List FileId) (others : List DMap)
    (hn : order.Nodup) (hk : ∀ f, f ∈ order ↔ ∃ o ∈ others, f ∈ keys o) (f : FileId) :
    mergedAt (mergeDiagnostics parsed orphan order others) f =
      parsedUnion parsed f ++ getAll orphan f ++ extendFrom others f := by
  unfold mergeDiagnostics
  rw [mergeFrom_exact _ _ _ _ hn hk f, mergedAt_parsedResult]

/-- FULL conservation law of the fixed code, no equal-lists hypothesis: per file the merged list is the first
occurrences (by object identity, in order) of the concatenation of the lists of ALL outputs of that source,
followed by orphan and others. `hU`: no list holds the same object twice. -/
theorem merge_conservation (parsed : List Out) (orphan : DMap) (order : List FileId) (others : List DMap)
    (hn : order.Nodup) (hk : ∀ f, f ∈ order ↔ ∃ o ∈ others, f ∈ keys o) (hU : OutputsNodup parsed) (f : FileId) :
    mergedAt (mergeDiagnostics parsed orphan order others) f =
      dedupInto [] (parsedAll parsed f) ++ getAll orphan f ++ extendFrom others f := by
  rw [merge_exact parsed orphan order others hn hk f, parsedUnion_eq_dedup parsed f hU]

/-- … so every diagnostic of every output of a source is in the merged list of that source (as the same
object), exactly once. -/
theorem merge_each_output_once (parsed : List Out) (hU : OutputsNodup parsed) (f : FileId) :
    (∀ o ∈ parsed, o.src = f → ∀ d ∈ o.ds, ∃ d' ∈ parsedUnion parsed f, d'.oid = d.oid) ∧
    (IdsFaithful (parsedAll parsed f) → ∀ o ∈ parsed, o.src = f → ∀ d ∈ o.ds, d ∈ parsedUnion parsed f) ∧
    ((parsedUnion parsed f).map (·.oid)).Nodup := by
  rw [parsedUnion_eq_dedup parsed f hU]
  exact ⟨fun o ho hs d hd => dedupInto_complete [] _ d (mem_parsedAll.mpr ⟨o, ho, hs, hd⟩),
    fun hF o ho hs d hd => mem_dedupInto_of_faithful hF (mem_parsedAll.mpr ⟨o, ho, hs, hd⟩),
    dedupInto_nodup [] _ List.nodup_nil⟩

/-- nothing any producer reported is dropped (fixed code, no equal-lists hypothesis) -/
theorem merge_nothing_dropped (parsed : List Out) (orphan : DMap) (order : List FileId) (others : List DMap)
    (hn : order.Nodup) (hk : ∀ f, f ∈ order ↔ ∃ o ∈ others, f ∈ keys o) (hU : OutputsNodup parsed)
    (f : FileId) (d : D) (h : d ∈ parsedAll parsed f ∨ d ∈ getAll orphan f ∨ d ∈ extendFrom others f) :
    ∃ d' ∈ mergedAt (mergeDiagnostics parsed orphan order others) f, d'.oid = d.oid := by
  rw [merge_conservation parsed orphan order others hn hk hU f]
  rcases h with h | h | h
  · obtain ⟨d', hd', he⟩ := dedupInto_complete [] _ d h
    exact ⟨d', List.mem_append_left _ (List.mem_append_left _ hd'), he⟩
  · exact ⟨d, List.mem_append_left _ (List.mem_append_right _ h), rfl⟩
  · exact ⟨d, List.mem_append_right _ h, rfl⟩

/-- The code before the fix kept only the list of the LAST output of a source … -/
theorem merge_old_exact (parsed : List Out) (orphan : DMap) (order : List FileId) (others : List DMap)
    (hn : order.Nodup) (hk : ∀ f, f ∈ order ↔ ∃ o ∈ others, f ∈ keys o) (f : FileId) :
    mergedAt (mergeDiagnosticsOld parsed orphan order others) f =
      (parsedLast parsed f).getD [] ++ getAll orphan f ++ extendFrom others f := by
  rw [mergeDiagnosticsOld, mergeFrom_exact _ _ _ _ hn hk f, mergedAt, lookup_parsedResultOld]

/-- … so the conservation law was FALSE for it: two outputs of one yaml file, the first carrying a diagnostic
the second does not (a missing image in the first extract: its `CannotOpenFile` is appended by `page.finish`
to that output's list only). -/
theorem merge_conservation_refuted :
    ¬ (∀ (parsed : List Out) (orphan : DMap) (order : List FileId) (others : List DMap) (f : FileId),
        order.Nodup → ∀ d ∈ parsedAll parsed f, d ∈ mergedAt (mergeDiagnosticsOld parsed orphan order others) f) := by
  intro h
  have := h [⟨"includes/extracts/a.rst", "includes/extracts-x.yaml", [⟨"CannotOpenFile", 2, 3, 0⟩]⟩,
             ⟨"includes/extracts/b.rst", "includes/extracts-x.yaml", []⟩] [] [] []
            "includes/extracts-x.yaml" List.nodup_nil ⟨"CannotOpenFile", 2, 3, 0⟩ (by decide +kernel)
  exact absurd this (by decide +kernel)

/-- the fixed code on two such outputs: the object they share once, then what each carries alone -/
example : mergedAt (mergeDiagnostics
      [⟨"includes/extracts/a.rst", "includes/extracts-x.yaml", [⟨"DocUtilsParseError", 5, 3, 7⟩, ⟨"CannotOpenFile", 2, 3, 0⟩]⟩,
       ⟨"includes/extracts/b.rst", "includes/extracts-x.yaml", [⟨"DocUtilsParseError", 5, 3, 7⟩, ⟨"CannotOpenFile", 2, 3, 1⟩]⟩]
      [] [] []) "includes/extracts-x.yaml"
    = [⟨"DocUtilsParseError", 5, 3, 7⟩, ⟨"CannotOpenFile", 2, 3, 0⟩, ⟨"CannotOpenFile", 2, 3, 1⟩] := by decide +kernel

/-- what was provable for the old code: conservation under the hypothesis that outputs sharing a source carry
equal lists -/
theorem merge_conservation_old_partial (parsed : List Out) (orphan : DMap) (order : List FileId) (others : List DMap)
    (hE : EqualLists parsed) (hn : order.Nodup) (hk : ∀ f, f ∈ order ↔ ∃ o ∈ others, f ∈ keys o) (f : FileId) :
    (∀ o ∈ parsed, o.src = f →
        mergedAt (mergeDiagnosticsOld parsed orphan order others) f = o.ds ++ getAll orphan f ++ extendFrom others f) ∧
    (f ∉ srcs parsed →
        mergedAt (mergeDiagnosticsOld parsed orphan order others) f = getAll orphan f ++ extendFrom others f) := by
  rw [merge_old_exact parsed orphan order others hn hk f]
  constructor
  · intro o ho hs
    rw [parsedLast_of_equalLists parsed f hE o ho hs]; rfl
  · intro h
    rw [(parsedLast_none_iff parsed f).mpr h]; rfl

example : mergedAt (mergeDiagnostics
      [⟨"a.txt", "a.txt", [⟨"X", 1, 3, 0⟩]⟩, ⟨"o1", "s.yaml", [⟨"Y", 2, 3, 1⟩]⟩, ⟨"o2", "s.yaml", [⟨"Y", 2, 3, 1⟩]⟩]
      [("s.yaml", [⟨"O", 0, 3, 2⟩])] ["a.txt", "snooty.toml"]
      [[("a.txt", [⟨"P", 5, 2, 3⟩])], [("snooty.toml", [⟨"I", 0, 3, 4⟩]), ("a.txt", [⟨"J", 0, 3, 5⟩])]]) "a.txt"
    = [⟨"X", 1, 3, 0⟩, ⟨"P", 5, 2, 3⟩, ⟨"J", 0, 3, 5⟩] := by decide +kernel
example : mergedAt (mergeDiagnostics
      [⟨"o1", "s.yaml", [⟨"Y", 2, 3, 1⟩]⟩, ⟨"o2", "s.yaml", [⟨"Y", 2, 3, 1⟩]⟩]
      [("s.yaml", [⟨"O", 0, 3, 2⟩])] [] []) "s.yaml" = [⟨"Y", 2, 3, 1⟩, ⟨"O", 0, 3, 2⟩] := by decide +kernel

/-- The keys of the result are exactly the sources of the parsed outputs, the orphan keys and the keys of the
other maps: no file invented, none lost. -/
theorem merge_keys (parsed : List Out) (orphan : DMap) (order : List FileId) (others : List DMap)
    (hn : order.Nodup) (hk : ∀ f, f ∈ order ↔ ∃ o ∈ others, f ∈ keys o) (f : FileId) :
    f ∈ keys (mergeDiagnostics parsed orphan order others) ↔
      f ∈ srcs parsed ∨ f ∈ keys orphan ∨ ∃ o ∈ others, f ∈ keys o := by
  rw [mergeDiagnostics, keys_mergeFrom, keys_parsedResult, hk f]

/-- Nothing is invented and nothing is filed under another file: a diagnostic in the merged list of `f` was
reported for `f` by the parse producer, the orphan map or one of the other maps. -/
theorem merge_nothing_invented (parsed : List Out) (orphan : DMap) (order : List FileId) (others : List DMap)
    (hn : order.Nodup) (hk : ∀ f, f ∈ order ↔ ∃ o ∈ others, f ∈ keys o) (f : FileId) (d : D)
    (h : d ∈ mergedAt (mergeDiagnostics parsed orphan order others) f) :
    d ∈ parsedAll parsed f ∨ d ∈ getAll orphan f ∨ ∃ o ∈ others, d ∈ getAll o f := by
  rw [merge_exact parsed orphan order others hn hk f, List.mem_append, List.mem_append] at h
  rcases h with (h | h) | h
  · exact .inl (mem_parsedAll_of_mem_parsedUnion d h)
  · exact .inr (.inl h)
  · exact .inr (.inr (mem_extendFrom h))

example : keys (mergeDiagnostics [⟨"o1", "s.yaml", []⟩, ⟨"o2", "s.yaml", []⟩, ⟨"a.txt", "a.txt", []⟩]
      [("bad.yaml", [])] ["snooty.toml", "a.txt"] [[("snooty.toml", [])], [("a.txt", [])]])
    = ["s.yaml", "a.txt", "bad.yaml", "snooty.toml"] := by decide +kernel

/-- REFINEMENT of `PageDatabase` (as far as diagnostics go) to a last-write-wins map, for EVERY history of
`db[k] = …`, `set_orphan_diagnostics`, `del db[k]` (history written latest operation first): the page stored under a key
and the orphan diagnostics recorded for a key are those of the latest operation that named the key; a later `del` forgets
both. -/
theorem store_refines_last_write (hist : List Op) (k : FileId) :
    lookupOut (Store.run hist.reverse).parsed k = specOut hist k ∧
    (Store.run hist.reverse).orphan.lookup k = specOrphan hist k := by
  induction hist with
  | nil => exact ⟨rfl, rfl⟩
  | cons op earlier ih =>
    rw [List.reverse_cons, run_snoc]
    -- each equation of the two specifications is the lookup lemma of what the operation does to the store
    cases op <;> rw [specOut, specOrphan, ← ih.1, ← ih.2]
    case set o => exact ⟨lookupOut_storeSet .., rfl⟩
    case setOrphan k' ds => exact ⟨rfl, lookup_dictSet ..⟩
    case del k' => exact ⟨lookupOut_filter_ne .., lookup_filter_ne ..⟩

/-- `del db[k]` forgets: whatever happened before, right after a delete nothing is stored under `k` and no orphan
diagnostics are recorded for `k` (so `merge_diagnostics` can only report what `others` say about it). -/
theorem delete_forgets (earlier : List Op) (k : FileId) :
    lookupOut (Store.run ((Op.del k :: earlier).reverse)).parsed k = none ∧
    (Store.run ((Op.del k :: earlier).reverse)).orphan.lookup k = none := by
  have h := store_refines_last_write (Op.del k :: earlier) k
  rwa [specOut, specOrphan, if_pos rfl, if_pos rfl] at h

/-- keys of the page dict stay unique under every history (so "the page stored under k" is well defined) -/
theorem store_keys_unique (ops : List Op) : ((Store.run ops).parsed.map (·.out)).Nodup :=
  List.foldlRecOn ops Store.step List.nodup_nil fun s h op _ => step_keys_nodup s op h

/-- conservation after ANY history: what `merge_diagnostics` returns for a file is determined by the state the history
left behind - the outputs currently stored for that source, the orphan diagnostics currently recorded, and the others. -/
theorem merge_after_history (ops : List Op) (order : List FileId) (others : List DMap)
    (hn : order.Nodup) (hk : ∀ f, f ∈ order ↔ ∃ o ∈ others, f ∈ keys o) (f : FileId) :
    mergedAt (mergeDiagnostics (Store.run ops).parsed (Store.run ops).orphan order others) f =
      parsedUnion (Store.run ops).parsed f ++ getAll (Store.run ops).orphan f ++ extendFrom others f :=
  merge_exact _ _ _ _ hn hk f

/-- a YAML file whose parse error was recorded as orphan diagnostics, then deleted: nothing is left to merge -/
example :
    let hist := [Op.setOrphan "includes/extracts-x.yaml" [⟨"ErrorParsingYAMLFile", 1, 3, 7⟩], Op.set ⟨"index.txt", "index.txt", []⟩,
                 Op.del "includes/extracts-x.yaml"]
    mergeDiagnostics (Store.run hist).parsed (Store.run hist).orphan [] [] = [("index.txt", [])] := by decide +kernel

/-- … while the early-return variant of `__delitem__` (only when the key is a stored page) would keep it: the witness
of a seeded change (C14-5) on the model -/
example :
    let stepBad : Store → Op → Store := fun s op => match op with
      | .del k => if (lookupOut s.parsed k).isSome then s.step (.del k) else s
      | op => s.step op
    let hist := [Op.setOrphan "includes/extracts-x.yaml" [⟨"ErrorParsingYAMLFile", 1, 3, 7⟩], Op.del "includes/extracts-x.yaml"]
    (hist.foldl stepBad Store.empty).orphan ≠ (Store.run hist).orphan := by decide +kernel

/-- `filter_diagnostics` keeps exactly the diagnostics whose class name is not silenced, in their order. -/
theorem filter_sound_complete (S : List String) (ds : List D) :
    filterDiagnostics S ds = ds.filter (fun d => decide (d.cls ∉ S)) :=
  filterDiagnostics_eq S ds

theorem filter_mem (S : List String) (ds : List D) (d : D) :
    d ∈ filterDiagnostics S ds ↔ d ∈ ds ∧ d.cls ∉ S := mem_filterDiagnostics S ds d

theorem filter_order_kept (S : List String) (ds : List D) : (filterDiagnostics S ds).Sublist ds := by
  rw [filterDiagnostics_eq]; exact List.filter_sublist

example : filterDiagnostics ["OrphanedPage"] [⟨"OrphanedPage", 0, 2, 0⟩, ⟨"TargetNotFound", 4, 3, 1⟩, ⟨"OrphanedPage", 0, 2, 2⟩,
    ⟨"DocUtilsParseError", 1, 3, 3⟩] = [⟨"TargetNotFound", 4, 3, 1⟩, ⟨"DocUtilsParseError", 1, 3, 3⟩] := by decide +kernel
example : filterDiagnostics [] [⟨"OrphanedPage", 0, 2, 0⟩] = [⟨"OrphanedPage", 0, 2, 0⟩] := by decide

/-- Every list handed to `backend.on_diagnostics` or `backend.set_diagnostics` by `_Project`, and every list
reaching the command-line backend, is free of silenced classes. -/
theorem delivered_never_silenced (S : List String) (p : Producers) (assets : Stream) :
    ∀ e ∈ onStream S p ++ setStream S p ++ cliStream S p assets, ∀ d ∈ e.2, d.cls ∉ S := by
  -- every piece of the three streams is `filtered S _`, so the whole is
  simp only [onStream, setStream, cliStream, ← filtered_append]
  exact filtered_clean S _

/-- Before the fix `__init__` handed its batches to the backend unfiltered: a project that silences
`DocUtilsParseError` still had the one of a snooty.toml substitution delivered (and counted). -/
theorem delivered_never_silenced_orig_refuted :
    ¬ (∀ (S : List String) (cfg2 : FileId) (second : List Bool) (p : Producers),
        ∀ e ∈ onStreamOrig S cfg2 second p, ∀ d ∈ e.2, d.cls ∉ S) := by
  intro h
  exact h ["DocUtilsParseError"] "../snooty.toml" [true]
    ⟨"snooty.toml", [[⟨"DocUtilsParseError", 0, 3, 0⟩]], [], [], [], [], [], []⟩
    ("../snooty.toml", [⟨"DocUtilsParseError", 0, 3, 0⟩]) (by decide +kernel) ⟨"DocUtilsParseError", 0, 3, 0⟩
    List.mem_cons_self List.mem_cons_self

/-- What the `on_diagnostics` channel carries for file `f`, exactly: the unsilenced part of everything every
producer reported for `f`, in production order (one copy per output of a source). -/
theorem on_channel_exact (S : List String) (p : Producers) (f : FileId) :
    deliveredAt (onStream S p) f =
      filterDiagnostics S ((if f = p.cfg then p.init.flatten else []) ++ parsedAll p.parsedA f ++ getAll p.nested f
        ++ parsedAll p.parsedB f ++ getAll p.orphan f ++ getAll p.post f) := by
  unfold deliveredAt onStream
  simp only [← filtered_append, getAll_filtered, getAll_append, getAll_outEvents, getAll_initEvents]

/-- Completeness of the incremental channel: an unsilenced diagnostic of any producer is delivered under its file. -/
theorem delivered_complete (S : List String) (p : Producers) (f : FileId) (d : D) (hS : d.cls ∉ S)
    (h : (f = p.cfg ∧ d ∈ p.init.flatten) ∨ d ∈ parsedAll (p.parsedA ++ p.parsedB) f ∨ d ∈ getAll p.nested f
          ∨ d ∈ getAll p.orphan f ∨ d ∈ getAll p.post f) :
    d ∈ deliveredAt (onStream S p) f := by
  rw [on_channel_exact, mem_filterDiagnostics]
  refine ⟨?_, hS⟩
  simp only [List.mem_append]
  rcases h with ⟨h1, h2⟩ | h | h | h | h
  · rw [if_pos h1]; exact .inl (.inl (.inl (.inl (.inl h2))))
  · rcases List.mem_append.mp (parsedAll_append .. ▸ h) with h | h
    · exact .inl (.inl (.inl (.inl (.inr h))))
    · exact .inl (.inl (.inr h))
  · exact .inl (.inl (.inl (.inr h)))
  · exact .inl (.inr h)
  · exact .inr h

/-- The final set of file `f` (before the filter), exactly: union over all outputs ++ orphan ++ postprocess ++ init.
`hOut`: output ids are distinct (one `_page_updated` per output in a build). -/
theorem final_set_exact (p : Producers)
    (hOut : ((p.parsedA ++ p.parsedB).map (·.out)).Nodup) (hn : p.order.Nodup)
    (hk : ∀ f, f ∈ p.order ↔ ∃ o ∈ [p.post, initMap p.cfg p.init], f ∈ keys o) (f : FileId) :
    mergedAt (finalMerged p) f =
      parsedUnion (p.parsedA ++ p.parsedB) f ++ getAll p.orphan f ++ mergedAt p.post f
        ++ (if f = p.cfg then p.init.flatten else []) := by
  rw [finalMerged, pagesStore_nodup _ hOut, merge_exact _ _ _ _ hn hk f, extendFrom_eq, ← mergedAt_initMap]
  simp only [List.flatMap_cons, List.flatMap_nil, List.append_nil, List.append_assoc]

/-- Nothing reaches the final set that was not also delivered incrementally under the same file. -/
theorem final_subset_incremental (S : List String) (p : Producers)
    (hOut : ((p.parsedA ++ p.parsedB).map (·.out)).Nodup) (hn : p.order.Nodup)
    (hk : ∀ f, f ∈ p.order ↔ ∃ o ∈ [p.post, initMap p.cfg p.init], f ∈ keys o) (f : FileId) (d : D)
    (h : d ∈ filterDiagnostics S (mergedAt (finalMerged p) f)) : d ∈ deliveredAt (onStream S p) f := by
  rw [mem_filterDiagnostics, final_set_exact p hOut hn hk f] at h
  apply delivered_complete S p f d h.2
  simp only [List.mem_append] at h
  rcases h.1 with ((h | h) | h) | h
  · exact .inr (.inl (mem_parsedAll_of_mem_parsedUnion d h))
  · exact .inr (.inr (.inr (.inl h)))
  · exact .inr (.inr (.inr (.inr (mem_getAll_of_mem_mergedAt _ f d h))))
  · split at h
    · exact .inl ⟨‹_›, h⟩
    · cases h

/-- Conversely, nothing delivered through `on_diagnostics` for a file is missing from its final set
(no hypothesis on how many outputs a source has). `hU`: no list holds one object twice; `hP`: the postprocess
result is a dict; `hN`: no nested-project diagnostics (they are reported incrementally only);
`hF`: object identity determines the object. -/
theorem incremental_subset_final (S : List String) (p : Producers)
    (hOut : ((p.parsedA ++ p.parsedB).map (·.out)).Nodup) (hn : p.order.Nodup)
    (hk : ∀ f, f ∈ p.order ↔ ∃ o ∈ [p.post, initMap p.cfg p.init], f ∈ keys o)
    (hU : OutputsNodup (p.parsedA ++ p.parsedB)) (hP : (keys p.post).Nodup) (hN : p.nested = [])
    (f : FileId) (hF : IdsFaithful (parsedAll (p.parsedA ++ p.parsedB) f)) (d : D)
    (h : d ∈ deliveredAt (onStream S p) f) : d ∈ filterDiagnostics S (mergedAt (finalMerged p) f) := by
  rw [on_channel_exact, mem_filterDiagnostics] at h
  rw [mem_filterDiagnostics, final_set_exact p hOut hn hk f, parsedUnion_eq_dedup _ f hU,
    ← getAll_eq_mergedAt_of_nodup p.post f hP]
  refine ⟨?_, h.2⟩
  have hpar : d ∈ parsedAll p.parsedA f ∨ d ∈ parsedAll p.parsedB f →
      d ∈ dedupInto [] (parsedAll (p.parsedA ++ p.parsedB) f) :=
    fun hd => mem_dedupInto_of_faithful hF (by rwa [parsedAll_append, List.mem_append])
  simp only [List.mem_append] at h ⊢
  rcases h.1 with ((((h | h) | h) | h) | h) | h
  · exact .inr h
  · exact .inl (.inl (.inl (hpar (.inl h))))
  · rw [hN] at h; cases h
  · exact .inl (.inl (.inl (hpar (.inr h))))
  · exact .inl (.inl (.inr h))
  · exact .inl (.inr h)

example : onStream ["OrphanedPage"] ⟨"snooty.toml", [[], [⟨"DocUtilsParseError", 0, 3, 0⟩]],
      [⟨"a.txt", "a.txt", [⟨"X", 1, 3, 1⟩]⟩], [], [], [], [("a.txt", [⟨"OrphanedPage", 0, 2, 2⟩])], ["a.txt", "snooty.toml"]⟩
    = [("snooty.toml", [⟨"DocUtilsParseError", 0, 3, 0⟩]), ("a.txt", [⟨"X", 1, 3, 1⟩]), ("a.txt", [])] := by decide +kernel
example : setStream ["OrphanedPage"] ⟨"snooty.toml", [[], [⟨"DocUtilsParseError", 0, 3, 0⟩]],
      [⟨"a.txt", "a.txt", [⟨"X", 1, 3, 1⟩]⟩], [], [], [], [("a.txt", [⟨"OrphanedPage", 0, 2, 2⟩])], ["a.txt", "snooty.toml"]⟩
    = [("a.txt", [⟨"X", 1, 3, 1⟩]), ("snooty.toml", [⟨"DocUtilsParseError", 0, 3, 0⟩])] := by decide +kernel

/-- `snooty build` exits non-zero exactly when the error counter is positive; `1` means "errors and
`fail_on_diagnostics`", `2` (EXIT_STATUS_ERROR_DIAGNOSTICS) means "errors, `fail_on_diagnostics` off". -/
theorem exit_iff_error (errors : Nat) (fail : Bool) :
    (exitCode true errors fail ≠ 0 ↔ errors > 0) ∧
    (exitCode true errors fail = 1 ↔ errors > 0 ∧ fail = true) ∧
    (exitCode true errors fail = 2 ↔ errors > 0 ∧ fail = false) := by
  unfold exitCode
  by_cases h : errors > 0 <;> cases fail <;> simp [h]

/-- other sub-commands (`create-cache`) never turn diagnostics into an exit status; a project that cannot be
loaded exits 1 whatever the settings. -/
theorem exit_other_paths (errors : Nat) (fail build : Bool) :
    exitCode false errors fail = 0 ∧ mainExit true build errors fail = 1 := ⟨rfl, rfl⟩

/-- The counter counts what was delivered: the command-line build exits non-zero iff an error-level diagnostic
went through `Backend.on_diagnostics`. -/
theorem exit_iff_delivered_error (S : List String) (p : Producers) (assets : Stream) (fail : Bool) :
    cliExit S p assets fail ≠ 0 ↔ ∃ e ∈ cliStream S p assets, ∃ d ∈ e.2, 3 ≤ d.sev := by
  unfold cliExit mainExit
  simp only [Bool.false_eq_true, if_false]
  rw [(exit_iff_error _ fail).1]
  exact countErrors_pos_iff _

/-- hence a silenced error never fails the build -/
theorem exit_nonzero_has_unsilenced_error (S : List String) (p : Producers) (assets : Stream) (fail : Bool)
    (h : cliExit S p assets fail ≠ 0) : ∃ e ∈ cliStream S p assets, ∃ d ∈ e.2, 3 ≤ d.sev ∧ d.cls ∉ S := by
  obtain ⟨e, he, d, hd, hs⟩ := (exit_iff_delivered_error S p assets fail).mp h
  refine ⟨e, he, d, hd, hs, ?_⟩
  exact delivered_never_silenced S p assets e (List.mem_append_right _ he) d hd

example : exitCode true 3 true = 1 ∧ exitCode true 3 false = 2 ∧ exitCode true 0 true = 0 := by decide
example : cliExit ["X"] ⟨"snooty.toml", [], [⟨"a.txt", "a.txt", [⟨"X", 1, 3, 1⟩]⟩], [], [], [], [], []⟩ [] true = 0 := by decide +kernel
example : cliExit [] ⟨"snooty.toml", [], [⟨"a.txt", "a.txt", [⟨"X", 1, 3, 1⟩]⟩], [], [], [], [], []⟩ [] false = 2 := by decide +kernel

/-- A postprocess diagnostic raised on a node is filed under the file id of the node's nearest enclosing `Root`
(the page itself or the expanded include), never under the including page; the walk of a page cannot hit an
empty stack. -/
theorem attribution (fileid : FileId) (children : List Node) :
    walkPage fileid children = some (ownedList fileid children) :=
  walkList_owned [] fileid [] children

example : walkPage "page.txt" [.fault ⟨"A", 1, 3, 0⟩, .plain [.root "includes/shared.rst" [.fault ⟨"B", 2, 3, 1⟩],
      .fault ⟨"C", 3, 3, 2⟩]]
    = some [("page.txt", [⟨"A", 1, 3, 0⟩]), ("includes/shared.rst", [⟨"B", 2, 3, 1⟩]), ("page.txt", [⟨"C", 3, 3, 2⟩])] := by
  decide +kernel

end SnootyVerif.C14
