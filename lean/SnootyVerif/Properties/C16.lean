import SnootyVerif.Proofs.Flutter
import SnootyVerif.Proofs.SpecInherit
import SnootyVerif.Proofs.Constants
import SnootyVerif.Gen.Types

/-!
# C16 — Configuration and spec loading is total and type-sound

Property theorems only. Models: `Model/Flutter.lean` (`flutter.check_type`, glue of
`ProjectConfig.open`), `Model/SpecInherit.lean` (`Spec._resolve_category`), `Model/Constants.lean`
(`ProjectConfig.render_constants`); the general statements they are instances of and the helper
lemmas in `Proofs/Flutter.lean`, `Proofs/SpecInherit.lean`, `Proofs/Constants.lean`; the repo's real
types in `Gen/Types.lean`.
-/
namespace SnootyVerif.C16
open SnootyVerif.Flutter SnootyVerif.SpecInherit

/-! ## the generic loader -/

/-- Type soundness: whatever `check_type` returns has the declared type, for every declared type
and every input value. -/
theorem check_sound (ty : Ty) (v : Val) (x : TVal) (h : check ty v = .ok x) : HasType x ty :=
  Flutter.check_sound ty v x h

example : HasType (.record "R" [("a", .list [.int 1, .bool true]), ("b", .dflt)])
    (.record "R" (.cons "a" (.list .int) false (.cons "b" .str true .nil)) .none) :=
  check_sound _ (.dict [("a", .list [.int 1, .bool true])]) _ (by rfl)

/-- The only exceptions leaving `check_type` are `LoadError`s, provided no dataclass of the type has
a raising `__post_init__` (the single such class, `LinkRoleType`, raises `ValueError`). -/
theorem check_errors_are_load_errors (ty : Ty) (v : Val) (e : LoadErr) (hp : ty.noPost = true)
    (h : check ty v = .error e) : e.isLoadError = true :=
  Flutter.check_err ty v e hp h

example : check (.list .str) (.list [.str "a", .int 1]) = .error .wrongType := by rfl

/-- … and in general the only other exception is that `ValueError`. -/
theorem check_errors_general (ty : Ty) (v : Val) (e : LoadErr) (_ : check ty v = .error e) :
    e.isLoadError = true ∨ e = .postInit := by
  cases e <;> simp [LoadErr.isLoadError]

/-- the `ValueError` branch is real (non-vacuity of the hypothesis `noPost`) -/
example : check (.record "LinkRoleType" (.cons "link" .str false .nil) (.onePlaceholder "link"))
    (.dict [("link", .str "https://x/")]) = .error .postInit := by rfl

/-- A mapping with a key that is not a field of the dataclass is never accepted. -/
theorem check_unknown_field (name : String) (fs : Fields) (post : Post) (kvs : List (String × Val))
    (k : String) (v : Val) (hk : (k, v) ∈ kvs) (hunk : k ∉ fs.names) (x : TVal) :
    check (.record name fs post) (.dict kvs) ≠ .ok x := by
  intro h
  obtain ⟨_, y, _, _, hy⟩ := record_ok_item h (it := (k, v, false))
    (List.mem_append_left _ (List.mem_map_of_mem hk))
  rw [checkKey_eq_lookup, lookup_none_of_not_mem fs k hunk] at hy
  cases hy

/-- When the unknown key is the first offending item, the error names it (`LoadUnknownField.bad_field`). -/
theorem check_unknown_field_named (name : String) (fs : Fields) (post : Post)
    (pre rest : List (String × Val)) (k : String) (v : Val) (hunk : k ∉ fs.names)
    (hpre : ∀ kv ∈ pre, ∃ y, checkKey fs kv.1 kv.2 false = .ok y) :
    check (.record name fs post) (.dict (pre ++ (k, v) :: rest)) = .error (.unknownField k) :=
  check_record_first_error hpre (by rw [checkKey_eq_lookup, lookup_none_of_not_mem fs k hunk])

example : check (.record "BundleConfig" (.cons "manpages" (.union (.cons .str (.cons .none .nil))) true .nil) .none)
    (.dict [("manpages", .str "m"), ("zz", .int 1)]) = .error (.unknownField "zz") :=
  check_unknown_field_named "BundleConfig" _ .none [("manpages", .str "m")] [] "zz" (.int 1) (by decide)
    (by intro kv hkv; simp at hkv; subst hkv; exact ⟨_, rfl⟩)

/-- An absent field with a default gets the default (and nothing else); an absent field without
default gets the checked `None`. -/
theorem check_default_used (name : String) (fs : Fields) (post : Post) (kvs : List (String × Val))
    (n : String) (t : Ty) (d : Bool) (hdecl : fs.lookup n = some (t, d)) (habs : ∀ kv ∈ kvs, kv.1 ≠ n)
    (x : TVal) (h : check (.record name fs post) (.dict kvs) = .ok x) :
    ∃ res, x = .record name res ∧
      ∃ y, (n, y) ∈ res ∧ (if d then y = .dflt else check t .none = .ok y) := by
  obtain ⟨res, y, hx, hy, hc⟩ :=
    record_ok_item h (missing_mem_recordItems (mem_names_of_lookup fs n _ hdecl) habs)
  refine ⟨res, hx, y, hy, ?_⟩
  rw [checkKey_eq_lookup, hdecl] at hc
  cases d with
  | true => simp at hc; simp [hc]
  | false => simpa using hc

example : check (.record "BannerConfig" (.cons "targets" (.list .str) false (.cons "variant" .str true .nil)) .none)
    (.dict [("targets", .list [])]) = .ok (.record "BannerConfig" [("targets", .list []), ("variant", .dflt)]) := by rfl

/-- A field without default that is absent and whose type does not accept `None` makes the load fail. -/
theorem check_missing_required (name : String) (fs : Fields) (post : Post) (kvs : List (String × Val))
    (n : String) (t : Ty) (e : LoadErr) (hdecl : fs.lookup n = some (t, false))
    (habs : ∀ kv ∈ kvs, kv.1 ≠ n) (hnone : check t .none = .error e) (x : TVal) :
    check (.record name fs post) (.dict kvs) ≠ .ok x := by
  intro h
  obtain ⟨_, _, y, _, hy⟩ := check_default_used name fs post kvs n t false hdecl habs x h
  simp [hnone] at hy

example (x : TVal) : check (.record "ManPageConfig" (.cons "file" .str false (.cons "section" .int false .nil)) .none)
    (.dict [("file", .str "f")]) ≠ .ok x :=
  check_missing_required "ManPageConfig" _ .none _ "section" .int .wrongType (by rfl) (by decide) (by rfl) x

/-- Completeness (partial: types without raising `__post_init__`): a value of the right shape with no
unknown fields is accepted. -/
theorem check_complete_partial (ty : Ty) (v : Val) (hc : Conforms v ty) (hp : ty.noPost = true) :
    ∃ x, check ty v = .ok x :=
  Flutter.check_complete ty v hc hp

example : ∃ x, check (.union (.cons (.list .str) (.cons .none .nil))) .none = .ok x :=
  check_complete_partial _ _ (.union (t := .none) (by simp [Tys.toList]) .none) (by rfl)

/-! ## the repo's real types (`Gen/Types.lean`, regenerated from the imported modules on every run) -/

theorem projectConfig_noPost : Gen.Types.projectConfig.noPost = true := by rfl
theorem taxonomySpec_noPost : Gen.Types.taxonomySpec.noPost = true := by rfl

/-- Soundness at the real `ProjectConfig`: a loaded configuration has every field of its declared type. -/
theorem projectConfig_sound (v : Val) (x : TVal) (h : check Gen.Types.projectConfig v = .ok x) :
    HasType x Gen.Types.projectConfig :=
  check_sound _ v x h

/-- … and loading it can only fail with a `LoadError`. -/
theorem projectConfig_errors (v : Val) (e : LoadErr) (h : check Gen.Types.projectConfig v = .error e) :
    e.isLoadError = true :=
  check_errors_are_load_errors _ v e projectConfig_noPost h

/-- Soundness at the real `Spec` (whose `LinkRoleType` may additionally raise the `ValueError`). -/
theorem spec_sound (v : Val) (x : TVal) (h : check Gen.Types.spec v = .ok x) : HasType x Gen.Types.spec :=
  check_sound _ v x h

example : ∃ x, check Gen.Types.projectConfig
    (.dict [("name", .str "docs"), ("root", .obj ["PosixPath", "Path", "object"]),
            ("bundle", .dict []), ("manpages", .dict [("m", .dict [("file", .str "f"), ("title", .str "t"), ("section", .int 1)])])]) = .ok x :=
  exists_ok_of_isOk (by decide +kernel)

example : check Gen.Types.projectConfig (.dict [("name", .str "docs"), ("root", .obj ["Path"]), ("title", .int 3)])
    = .error .wrongType := by rfl

/-! ## glue: `ProjectConfig.open` (fixed code) -/

/-- Opening is total: for every TOML outcome the result is a configuration of the declared type or an
`UnmarshallingError` diagnostic — never an escaping exception. -/
theorem open_total (rootClasses : List String) (p : Parsed) :
    (∃ cfg, openConfig Gen.Types.projectConfig rootClasses p = .ok cfg ∧ HasType cfg Gen.Types.projectConfig) ∨
    (∃ line, openConfig Gen.Types.projectConfig rootClasses p = .diag line) :=
  openConfig_total projectConfig_noPost rootClasses p

example : openConfig Gen.Types.projectConfig ["Path"] (.decodeError 3) = .diag 3 := rfl
example : openConfig Gen.Types.projectConfig ["Path"] (.table [("nam", .str "x")]) = .diag 0 := by rfl

/-! ## spec inheritance -/

/-- Termination: the recursion bound of the model (number of entries + 1) is never hit, i.e.
`_resolve_category` returns or raises one of its two `ValueError`s for *every* index
(the Lean function is total by construction; this shows the bound is not what makes it so). -/
theorem resolve_terminates (idx : Index) : resolveCategory idx ≠ .error .fuel :=
  SpecInherit.resolveCategory_no_fuel idx

/-- The cycle guard: reaching a key that is on the current resolution path raises the cycle error. -/
theorem resolve_cycle_reported (fuel : Nat) (idx : Index) (pending resolved : List String) (key : String)
    (e : Entry) (h : key ∈ pending) :
    resolveValue (fuel + 1) idx pending resolved key e = .error (.cycle key) := by
  simp [resolveValue, h]

/-- the guard fires on real cycles of any length: concrete 1-, 2- and 3-cycles, also when entered
from outside the cycle (the general statement "ok ⇒ acyclic and closed" is checked on the
implementation by the harness' independent graph oracle, not proved here) -/
example : resolveCategory [("a", ⟨some "b", []⟩), ("b", ⟨some "a", []⟩)] = .error (.cycle "a") := by rfl
example : resolveCategory [("a", ⟨some "a", []⟩)] = .error (.cycle "a") := by rfl
example : resolveCategory [("x", ⟨some "a", []⟩), ("a", ⟨some "b", []⟩), ("b", ⟨some "c", []⟩), ("c", ⟨some "a", []⟩)]
    = .error (.cycle "a") := by rfl

/-- A parent that is not in the index is reported. -/
theorem resolve_missing_parent_reported (fuel : Nat) (idx : Index) (pending resolved : List String)
    (key p : String) (e : Entry) (hp : key ∉ pending) (hr : key ∉ resolved) (hi : e.inherit = some p)
    (hm : lookup idx p = none) :
    resolveValue (fuel + 1) idx pending resolved key e = .error (.missingParent p) := by
  simp [resolveValue, hp, hr, hi, hm]

example : resolveCategory [("a", ⟨none, []⟩), ("b", ⟨some "ghost", []⟩)] = .error (.missingParent "ghost") := by rfl

/-- Merge: an entry that inherits becomes its own set (non-`None`, non-`Missing`) fields over the
*resolved* parent's, and that is what is stored back. -/
theorem resolve_merge (fuel : Nat) (idx idx' : Index) (pending resolved resolved' : List String)
    (key p : String) (e out : Entry) (hp : key ∉ pending) (hr : key ∉ resolved) (hi : e.inherit = some p)
    (h : resolveValue (fuel + 1) idx pending resolved key e = .ok (idx', resolved', out)) :
    ∃ pe idx₁ r₁ base, lookup idx p = some pe ∧
      resolveValue fuel idx (key :: pending) resolved p pe = .ok (idx₁, r₁, base) ∧
      out = merge e base ∧ idx' = setEntry idx₁ key out ∧ resolved' = key :: r₁ := by
  simp only [resolveValue, hp, hr, hi, if_false] at h
  split at h
  · cases h
  · next pe hpe =>
    split at h <;> cases h
    exact ⟨pe, _, _, _, hpe, ‹_›, rfl, rfl, rfl⟩

/-- field-wise reading of `merge` -/
theorem merge_field (c b : Entry) (i : Nat) (hc : i < c.fields.length) (hb : i < b.fields.length) :
    (merge c b).fields[i]? = some (match c.fields[i] with | some x => some x | none => b.fields[i]) :=
  SpecInherit.mergeFields_get c.fields b.fields i hc hb

example : resolveCategory [("child", ⟨some "base", [some "own", none]⟩), ("base", ⟨none, [some "b1", some "b2"]⟩)]
    = .ok [("child", ⟨some "base", [some "own", some "b2"]⟩), ("base", ⟨none, [some "b1", some "b2"]⟩)] := by rfl


/-! ## `[constants]` expansion (`ProjectConfig.render_constants`) -/
open SnootyVerif.Constants in
/-- Every placeholder is either expanded from the constants available at that point or reported:
the `ConstantNotDeclared` diagnostics of one source text are exactly its placeholder names that are
not (yet) declared, in order. -/
theorem constants_reported (env : List (String × String)) (segs : List Seg) :
    (substitute env segs).2 = (refs segs).filter (fun n => (env.lookup n).isNone) :=
  substitute_diags env segs

open SnootyVerif.Constants in
/-- A constant is expanded against the *already expanded* constants declared before it and nothing
else: its value does not depend on its own or on later entries (a forward or self reference is
undeclared there, hence reported and replaced, never left as raw `{+name+}` text). -/
theorem constants_use_only_earlier (pre post : List (String × List Seg)) (k : String) (segs : List Seg) :
    ∃ tail, (render (pre ++ (k, segs) :: post)).1 =
      (render pre).1 ++ (k, (substitute (render pre).1 segs).1) :: tail :=
  renderFrom_entry [] pre post k segs

open SnootyVerif.Constants in
/-- … and the diagnostics of the table are those of its entries, in table order. -/
theorem constants_diags_append (pre rest : List (String × List Seg)) :
    (render (pre ++ rest)).2 = (render pre).2 ++ (renderFrom (render pre).1 rest).2 :=
  congrArg Prod.snd (renderFrom_append [] pre rest)

open SnootyVerif.Constants in
/-- forward reference, backward reference, self reference (the table of the seeded-change demo) -/
example : render [("base", [.lit "1"]), ("pkg", [.lit "mongodb-", .ref "version", .lit ".tgz"]),
                  ("version", [.ref "major", .lit ".", .ref "base"]), ("major", [.lit "7"]),
                  ("selfref", [.lit "x", .ref "selfref"])]
    = ([("base", "1"), ("pkg", "mongodb-" ++ zwsp ++ ".tgz"), ("version", zwsp ++ ".1"), ("major", "7"),
        ("selfref", "x" ++ zwsp)], ["version", "major", "selfref"]) := by decide +kernel

end SnootyVerif.C16
