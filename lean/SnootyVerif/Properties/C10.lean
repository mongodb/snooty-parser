import SnootyVerif.Proofs.Toc

/-!
# C10 — the table of contents and navigation metadata agree with the toctree directives

Property theorems only.  Model: `Model/Toc.lean` (`buildToc` = `build_toctree`, a DFS over
toctree entries threading `visited`; `toctreeOrder` = `pre_order`; `parentPaths` = `breadcrumbs`
over `get_paths`).  Vocabulary (`Proofs/Toc.lean`): `nodesL ts` = all nodes of the forest in
pre-order; `expandedL ts` = the labels of page nodes that have children; `Step`/`Reach` = the
toctree graph and its reflexive-transitive closure; `Occ ts p x` = the forest holds a
slug-bearing node with cleaned slug `x` under ancestors `p`.
-/
namespace SnootyVerif.C10
open SnootyVerif.Toc

/-- Termination on every graph (cycles, self references, references to the root included):
with `pages.length + 1` units of depth fuel `build_toctree` is never cut short. -/
theorem buildToc_fuel (P : Pages) (fuel : Nat) (h : fuel ≥ P.length + 1) : ∃ r, buildToc P fuel = some r := by
  unfold buildToc
  cases hs : startPage P with
  | none => exact ⟨_, rfl⟩
  | some sp =>
    simp only
    have hk : (keys P).length = P.length := by simp [keys]
    obtain ⟨⟨ts, st⟩, hr⟩ := walk_total P fuel sp.slug sp.entries _ (inv_start hs)
      (by simp only [List.length_singleton]; omega)
    rw [hr]; exact ⟨_, rfl⟩

/-- Each page is expanded at most once: among all nodes of the tree that have children no two
name the same page, the root page is never expanded again below the root, and the bookkeeping
set `visited` has no duplicates. -/
theorem expanded_once (P : Pages) (fuel : Nat) (r : Result) (ts : List Tree) (sp : Page)
    (h : buildToc P fuel = some r) (hs : startPage P = some sp) (ht : r.tree = some ts) :
    (expandedL ts).Nodup ∧ sp.slug ∉ expandedL ts ∧ r.visited.Nodup := by
  obtain ⟨ts', A, M, w, rfl⟩ := buildToc_walk h hs
  cases ht
  have hv := (w.inv (inv_start hs)).1
  obtain ⟨hn, -, hd⟩ := List.nodup_append.1 hv
  have hsub := w.expanded_sub
  exact ⟨(List.reverse_perm _).nodup_iff.1 (hn.sublist hsub),
    fun hm => hd _ (hsub.subset (List.mem_reverse.2 hm)) _ (List.mem_singleton.2 rfl) rfl, hv⟩

/-- Every page node names a page of the build and carries the entry's explicit title, or else
that page's heading (`titleOf`). -/
theorem nodes_name_pages (P : Pages) (fuel : Nat) (r : Result) (ts : List Tree)
    (h : buildToc P fuel = some r) (ht : r.tree = some ts) :
    ∀ t ∈ nodesL ts, t.kind = .page →
      ∃ e s pg, classify e = .page s ∧ lookup P (cleanSlug s) = some pg ∧ pg.slug = t.label ∧
        t.title = (match truthy e.title with | some x => some x | none => pg.heading) := by
  cases hs : startPage P with
  | none => rw [buildToc_none h hs] at ht; cases ht
  | some sp =>
    obtain ⟨ts', A, M, w, rfl⟩ := buildToc_walk h hs
    cases ht
    rintro ⟨k, l, tt, cs⟩ hm hk
    cases hk
    obtain ⟨⟨e, he⟩, -⟩ := w.nodes_ok _ hm
    exact ⟨e, emitOf_page he⟩

/-- The tree follows the toctree entries: the root's children are the nodes emitted for the
entries of the root page, in document order, and the children of every expanded node are the
nodes emitted for the entries of the page it names (`emitOf`: URL/project leaf, page node with
`titleOf`, nothing for an empty entry or an entry naming no page). -/
theorem children_follow_entries (P : Pages) (fuel : Nat) (r : Result) (ts : List Tree) (sp : Page)
    (h : buildToc P fuel = some r) (hs : startPage P = some sp) (ht : r.tree = some ts) :
    ts.map Tree.head = sp.entries.filterMap (emitOf P) ∧
    ∀ t ∈ nodesL ts, isExpanded t = true →
      ∃ pg, lookup P t.label = some pg ∧ t.children.map Tree.head = pg.entries.filterMap (emitOf P) := by
  obtain ⟨ts', A, M, w, rfl⟩ := buildToc_walk h hs
  cases ht
  refine ⟨w.heads, fun t hm hx => ?_⟩
  rcases (w.nodes_ok t hm).2 with h | ⟨-, h⟩
  · simp [isExpanded, h] at hx
  · exact h

/-- URL entries and project references are leaves; in particular a node without a `slug` key
never has children (so `get_paths` cannot hit its KeyError). -/
theorem url_nodes_leaves (P : Pages) (fuel : Nat) (r : Result) (ts : List Tree)
    (h : buildToc P fuel = some r) (ht : r.tree = some ts) :
    (∀ t ∈ nodesL ts, t.kind ≠ .page → t.children = []) ∧ LeavesOk ts := by
  cases hs : startPage P with
  | none => rw [buildToc_none h hs] at ht; cases ht
  | some sp =>
    obtain ⟨ts', A, M, w, rfl⟩ := buildToc_walk h hs
    cases ht
    have key : ∀ t ∈ nodesL ts, t.kind ≠ .page → t.children = [] := fun t hm hk =>
      (w.nodes_ok t hm).2.elim id fun h => absurd h.1 hk
    refine ⟨key, fun t hm hnone => key t hm ?_⟩
    obtain ⟨k, l, tt, cs⟩ := t
    cases k <;> simp [Tree.slugKey, Tree.kind] at hnone ⊢

/-- A toctree entry naming no page is reported (on the page that holds it, for every page that is
expanded) and never emitted: whatever is reported names no page, whereas every emitted page node
names one (`nodes_name_pages`). -/
theorem missing_reported (P : Pages) (fuel : Nat) (r : Result) (sp : Page)
    (h : buildToc P fuel = some r) (hs : startPage P = some sp) :
    (∀ v ∈ r.visited, ∀ pa e s, lookup P v = some pa → e ∈ pa.entries → classify e = .page s →
        lookup P (cleanSlug s) = none → (v, cleanSlug s) ∈ r.missing) ∧
    (∀ m ∈ r.missing, lookup P m.2 = none) := by
  refine ⟨fun v hv pa e s hl he hc hn => ?_, ?_⟩
  · exact (buildToc_settled h hs v hv pa hl e he).2 (mem_lost.2 ⟨s, hc, hn, rfl⟩)
  · obtain ⟨ts, A, M, w, rfl⟩ := buildToc_walk h hs
    exact w.missing_sound

/-- DFS correctness: the pages whose toctrees were expanded are exactly the pages reachable from
the root page by following toctree entries that name existing pages. -/
theorem visited_eq_reach (P : Pages) (fuel : Nat) (r : Result) (sp : Page)
    (h : buildToc P fuel = some r) (hs : startPage P = some sp) :
    ∀ v, v ∈ r.visited ↔ Reach P sp.slug v := by
  intro v
  constructor
  · obtain ⟨ts, A, M, w, rfl⟩ := buildToc_walk h hs
    intro hv
    simp only [List.mem_append, List.mem_singleton] at hv
    rcases hv with hv | rfl
    · exact w.reach (startPage_spec hs).1 (List.Subset.refl _) v hv
    · exact .refl
  · intro hr
    induction hr with
    | refl => obtain ⟨ts, A, M, w, rfl⟩ := buildToc_walk h hs; simp
    | tail _ hstep ih =>
      obtain ⟨pa, e, s, pb, hla, he, hc, hlb, rfl⟩ := hstep
      exact (buildToc_settled h hs _ ih pa hla e he).1 s pb hc hlb

/-- The tree is obtained by following toctree entries from the root: the pages named by its
nodes, together with the root page, are exactly the reachable pages. -/
theorem tree_names_reachable (P : Pages) (fuel : Nat) (r : Result) (ts : List Tree) (sp : Page)
    (h : buildToc P fuel = some r) (hs : startPage P = some sp) (ht : r.tree = some ts) :
    ∀ v, Reach P sp.slug v ↔ v = sp.slug ∨ ∃ t ∈ nodesL ts, t.kind = .page ∧ t.label = v := by
  intro v
  rw [← visited_eq_reach P fuel r sp h hs v]
  obtain ⟨ts', A, M, w, rfl⟩ := buildToc_walk h hs
  cases ht
  constructor
  · intro hv
    simp only [List.mem_append, List.mem_singleton] at hv
    exact hv.symm.imp_right (w.visited_labels v)
  · rintro (rfl | ⟨t, ht, hk, rfl⟩)
    · simp
    · exact w.labels_visited t ht hk

/-- A page is reported orphaned exactly when it is a `.txt` page that is unreachable from the
root and not marked `:orphan:`. -/
theorem orphan_iff (P : Pages) (fuel : Nat) (r : Result) (sp : Page)
    (h : buildToc P fuel = some r) (hs : startPage P = some sp) :
    ∀ s, s ∈ r.orphans ↔
      ∃ pg ∈ P, pg.slug = s ∧ pg.isTxt = true ∧ pg.orphan = false ∧ ¬ Reach P sp.slug s := by
  intro s
  have hv := visited_eq_reach P fuel r sp h hs
  obtain ⟨ts, A, M, w, rfl⟩ := buildToc_walk h hs
  simp only [orphansOf, List.mem_map, List.mem_filter, Bool.and_eq_true, Bool.not_eq_true',
    List.contains_eq_mem, decide_eq_false_iff_not]
  constructor
  · rintro ⟨pg, ⟨hm, ⟨ht, hn⟩, ho⟩, rfl⟩
    exact ⟨pg, hm, rfl, ht, ho, fun hr => hn ((hv _).2 hr)⟩
  · rintro ⟨pg, hm, rfl, ht, ho, hn⟩
    exact ⟨pg, ⟨hm, ⟨ht, fun hvis => hn ((hv _).1 hvis)⟩, ho⟩, rfl⟩

/-- `toctreeOrder` is the pre-order of the tree: the root's "/" followed by the slug keys of all
nodes, each node before its children, children left to right (`nodesL`). -/
theorem order_is_preorder (ts : List Tree) :
    toctreeOrder (some ts) = ['/'] :: (nodesL ts).filterMap Tree.slugKey := by
  simp [toctreeOrder, preOrderAccL_spec]

/-- Every `parentPaths` entry is the chain of ancestors (cleaned slugs, root excluded, outermost
first) of an occurrence of that slug in the tree. -/
theorem parentPaths_sound (ts : List Tree) (s : Str) (p : List Str)
    (h : dictGet (parentPaths (some ts)) s = some p) : Occ ts p s := by
  rcases parentPaths_get ts s with ⟨h', -⟩ | ⟨a, b, hq, h'⟩ <;> cases h'.symm.trans h
  exact occ_of_mem_chainsL hq

/-- Every slug-bearing node of the tree below the root has a `parentPaths` entry (this is what
the fix to `get_paths` restores). -/
theorem parentPaths_complete (P : Pages) (fuel : Nat) (r : Result) (ts : List Tree)
    (h : buildToc P fuel = some r) (ht : r.tree = some ts) (s : Str) (p : List Str)
    (hocc : Occ ts p s) : ∃ p', dictGet (parentPaths r.tree) s = some p' ∧ Occ ts p' s := by
  obtain ⟨rest, hr⟩ := mem_chains_of_occ hocc (url_nodes_leaves P fuel r ts h ht).2
  rcases parentPaths_get ts s with ⟨-, hn⟩ | ⟨a, b, hq, h'⟩
  · exact absurd (by simp) (hn _ hr)
  · exact ⟨a, ht ▸ h', occ_of_mem_chainsL hq⟩

/-! ### the code before the fix -/

def ent (s : Str) : Entry := ⟨none, none, some s, none⟩
def urlE (t u : Str) : Entry := ⟨some t, some u, none, none⟩

/-- index → x → a → <url> -/
def urlOnly : Pages := [
  ⟨['i','n','d','e','x'], true, none, false, [ent ['x']]⟩,
  ⟨['x'], true, none, false, [ent ['a']]⟩,
  ⟨['a'], true, none, false, [urlE ['U'] ['h',':','x']]⟩]

/-- the toctree of `urlOnly` -/
def urlOnlyTree : List Tree :=
  [.node .page ['x'] none [.node .page ['a'] none [.node .url ['h',':','x'] (some ['U']) []]]]

/-- `get_paths` as it was (URL leaves skipped altogether) loses every page whose toctree lists
only URLs, and with it the ancestors that have no other slug leaf below them: the full
completeness statement is false for it. -/
theorem parentPathsOld_complete_refuted :
    ¬ (∀ (P : Pages) (r : Result) (ts : List Tree), buildToc P (enoughFuel P) = some r → r.tree = some ts →
        ∀ s p, Occ ts p s → ∃ p', dictGet (parentPathsOld r.tree) s = some p') := by
  intro hall
  have hb : buildToc urlOnly (enoughFuel urlOnly) = some
      { tree := some urlOnlyTree, visited := [['a'], ['x'], ['i','n','d','e','x']], missing := [], orphans := [] } := rfl
  have hocc : Occ urlOnlyTree [['x']] ['a'] :=
    .under (s := ['x']) List.mem_cons_self rfl (.here (s := ['a']) List.mem_cons_self rfl)
  obtain ⟨p', hp'⟩ := hall urlOnly _ _ hb rfl ['a'] [['x']] hocc
  have : dictGet (parentPathsOld (some urlOnlyTree)) ['a'] = none := by decide +kernel
  rw [this] at hp'
  cases hp'

/-- on the refutation witness the fixed code gives both pages their chain, the old code records nothing -/
example : (buildToc urlOnly (enoughFuel urlOnly)).map (fun r => (parentPaths r.tree, parentPathsOld r.tree)) =
    some ([(['x'], []), (['a'], [['x']])], []) := by decide +kernel

/-! ### non-vacuity -/

def entT (t s : Str) : Entry := ⟨some t, none, some s, none⟩

/-- index → a, b ; a → a (self), b, zz (missing), url ; b → a (cycle), index (root reference);
c unreachable; d unreachable but marked `:orphan:` -/
def demo : Pages := [
  ⟨['i','n','d','e','x'], true, none, false, [ent ['/','a'], entT ['B','!'] ['b','.','t','x','t']]⟩,
  ⟨['a'], true, some ['A'], false, [ent ['a'], ent ['/','b','/'], ent ['z','z'], urlE ['U'] ['h',':','x']]⟩,
  ⟨['b'], true, none, false, [ent ['a'], ent ['i','n','d','e','x']]⟩,
  ⟨['c'], true, none, false, []⟩,
  ⟨['d'], true, none, true, []⟩]

example : (buildToc demo (enoughFuel demo)).map
    (fun r => (toctreeOrder r.tree, r.orphans, r.missing, parentPaths r.tree, r.visited, r.tree.map expandedL)) =
    some ([['/'], ['a'], ['a'], ['b'], ['a'], ['/'], ['b']],
          [['c']],
          [(['a'], ['z', 'z'])],
          [(['a'], []), (['b'], []), ([], [['a'], ['b']])],
          [['b'], ['a'], ['i', 'n', 'd', 'e', 'x']],
          some [['a'], ['b']]) := rfl

example : (buildToc demo (enoughFuel demo)).map (fun r => r.tree.map (fun ts => ts.map Tree.head)) =
    some (some [(.page, ['a'], some ['A']), (.page, ['b'], some ['B','!'])]) := rfl
example : demo[0].entries.filterMap (emitOf demo) = [(.page, ['a'], some ['A']), (.page, ['b'], some ['B','!'])] := by
  decide +kernel

/-- with too little fuel the model reports exhaustion (so `buildToc_fuel` is not vacuous) -/
example : buildToc demo 2 = none := by decide +kernel
example : (buildToc demo 3).isSome = true := by decide +kernel
example : startPage demo = demo[0]? := by decide +kernel
example : Step demo ['b'] ['i','n','d','e','x'] :=
  ⟨demo[2], ent ['i','n','d','e','x'], ['i','n','d','e','x'], demo[0], by decide +kernel, by decide +kernel, by decide +kernel, by decide +kernel, by decide +kernel⟩

/-- `clean_slug` -/
example : [cleanSlug ['/','a','/','b','.','t','x','t','/'], cleanSlug ['.','.','t','x','t'], cleanSlug ['a','.','m','d'],
           cleanSlug ['/'], cleanSlug ['a','/','.','r','s','t']] =
    [['a','/','b'], ['.','.','t','x','t'], ['a','.','m','d'], [], ['a','/','.','r','s','t']] := by decide +kernel

/-- `make_toc_entry`: `Title <target>`, bare slug, URL, project reference, and the TypeError of a
project reference without title -/
example : makeTocEntry (· == ' ') (fun t => t == ['h',':','x']) ['T',' ',' ','<','/','a','>'] =
    .ok (some ⟨some ['T'], none, some ['/','a'], none⟩) := rfl
example : makeTocEntry (· == ' ') (fun t => t == ['h',':','x']) ['T',' ','<','h',':','x','>'] =
    .ok (some ⟨some ['T'], some ['h',':','x'], none, none⟩) := rfl
example : makeTocEntry (· == ' ') (fun _ => false) ['P',' ','<','|','p','|','>'] =
    .ok (some ⟨some ['P'], none, none, some ['p']⟩) := rfl
example : makeTocEntry (· == ' ') (fun _ => false) ['<','|','p','|','>'] = .error .typeError := rfl

/-! ## validate_toc_entries (parser.py): entries naming a project that is no associated product are removed — all of
them (the loop used to skip the entry that follows a removed one: fix 211e214) -/

theorem validate_toc_entries_is_filter (products : List Str) (es : List Entry) :
    validateTocEntries products es = es.filter (fun e => !badEntry products e) := by
  have := validate_fold (badEntry products) es [] (by simp)
  simpa [validateTocEntries] using this

/-- no entry with an unknown project survives, and every other entry does, in its place -/
theorem validate_toc_entries_sound (products : List Str) (es : List Entry) :
    (∀ e ∈ validateTocEntries products es, badEntry products e = false) ∧
    (validateTocEntries products es).Sublist es ∧
    (∀ e ∈ es, badEntry products e = false → e ∈ validateTocEntries products es) := by
  rw [validate_toc_entries_is_filter]
  refine ⟨?_, List.filter_sublist, ?_⟩
  · intro e he; simpa using (List.mem_filter.1 he).2
  · intro e he hb; exact List.mem_filter.2 ⟨he, by simp [hb]⟩

/-- the loop as it was before the fix let the second of two adjacent bad entries through -/
theorem validate_toc_entries_old_refuted :
    ∃ products es, ∃ e ∈ validateTocEntriesOld products es, badEntry products e = true :=
  ⟨[], [⟨some ['P'], none, none, some ['p']⟩, ⟨some ['Q'], none, none, some ['q']⟩],
   ⟨some ['Q'], none, none, some ['q']⟩, by decide, by decide⟩

example : validateTocEntries [['k']] [⟨some ['P'], none, none, some ['p']⟩, ⟨some ['Q'], none, none, some ['q']⟩,
    ⟨some ['K'], none, none, some ['k']⟩, ⟨none, none, some ['a'], none⟩] =
    [⟨some ['K'], none, none, some ['k']⟩, ⟨none, none, some ['a'], none⟩] := by decide +kernel

end SnootyVerif.C10
