import SnootyVerif.Proofs.Giza
/-!
# C18 — Giza YAML: inheritance, replacement and page generation are correct and total

Model: `SnootyVerif/Model/Giza.lean` (mirrors `snooty/gizaparser/*` after the D16 fix).
`isName` is `[\w-]` with Python's `\w` as a parameter; the only hypothesis used about it is
`isName '}' = false` (checked over all code points by the harness).
-/
namespace SnootyVerif.C18
open SnootyVerif.Giza

/-- each recursive call of `reify` follows a resolvable `(file, ref)` key that is not yet in the
cycle set, which strictly decreases the measure `remaining` … -/
theorem reify_measure_decreases (reg : Registry) (cs : List Key) (f : String) (seq : List Entry) (r : Text)
    (par : Entry) (h1 : reg.lookup f = some seq) (h2 : findParent seq r = some par) (h3 : (f, r) ∉ cs) :
    remaining reg ((f, r) :: cs) < remaining reg cs :=
  remaining_lt (mem_allKeys h1 h2) h3

/-- … so a fuel above the measure is never exhausted (no RecursionError, no hang), for every
registry, cyclic or not. -/
theorem reify_terminates (reg : Registry) (fuel : Nat) (cs : List Key) (e : Entry)
    (h : remaining reg cs < fuel) : ∃ r, resolve reg fuel cs e = .ok r :=
  resolve_fuel_sufficient reg fuel cs e h

/-- `reify` of any entry against any registry returns normally: every failure is a diagnostic. -/
theorem reify_total (isName : Char → Bool) (consts : Repl) (reg : Registry) (refs : List Text) (e : Entry) :
    ∃ r, reifyEntry isName consts reg refs e = .ok r :=
  reifyEntry_total isName consts reg refs e

/-- a whole file is reified whatever its entries are, and no entry is dropped -/
theorem reify_file_total (isName : Char → Bool) (consts : Repl) (reg : Registry) (refs : List Text) (es : List Entry) :
    ∃ out ds, reifyFile isName consts reg refs es = .ok (out, ds) ∧ out.length = es.length := by
  obtain ⟨ds, h⟩ := reifyFile_total isName consts reg es refs
  exact ⟨_, ds, h, List.length_map _⟩

theorem parse_refs_truthy (cat : Category) (src : FileSrc) (hc : cat ≠ .steps) :
    ∀ e ∈ (parseFile cat src).1, truthy e.ref = true := by
  intro e he
  cases src with
  | syntaxError => cases he
  | docs ds =>
    cases cat
    · exact absurd rfl hc
    all_goals exact (List.mem_filter.mp he).2

theorem buildFiles_total (isName : Char → Bool) (consts : Repl) (cat : Category) (reg : Registry)
    (pd : String → List Diag) (files : List (String × List Entry))
    (h : cat = .steps ∨ ∀ fe ∈ files, ∀ e ∈ fe.2, truthy e.ref = true) :
    ∃ outs, buildFiles isName consts cat reg pd files = .ok outs ∧ outs.length = files.length := by
  induction files with
  | nil => exact ⟨[], rfl, rfl⟩
  | cons fe rest ih =>
    obtain ⟨f, es⟩ := fe
    obtain ⟨ds, ho⟩ := reifyFile_total isName consts reg es []
    obtain ⟨more, hm, hl⟩ := ih (h.imp_right fun h fe hfe => h fe (List.mem_cons_of_mem _ hfe))
    -- outside `steps` a reified entry keeps the ref it was parsed with, so the `assert` of `namedPages` holds
    have hrefs (hc : cat ≠ .steps) : ∀ o ∈ es.map (valueOf isName consts reg), ∃ x, o.ref = some x := by
      intro o ho
      obtain ⟨e, he, rfl⟩ := List.mem_map.mp ho
      exact valueOf_ref_isSome isName consts reg e (h.resolve_left hc (f, es) List.mem_cons_self e he)
    obtain ⟨pages, hpg⟩ : ∃ pages, pagesOf cat f (es.map (valueOf isName consts reg)) = .ok pages := by
      cases cat with
      | steps => exact ⟨_, rfl⟩
      | extracts => exact (namedPages_ok "extracts" extractRenderDiags _ (hrefs (by simp))).imp fun _ => And.left
      | release => exact (namedPages_ok "release" (fun _ => []) _ (hrefs (by simp))).imp fun _ => And.left
    exact ⟨⟨f, es.map (valueOf isName consts reg), pd f ++ ds, pages⟩ :: more,
      by simp [buildFiles, ho, hpg, hm], by simp [hl]⟩

/-- the whole `load_and_generate` of a category never raises (no RecursionError from a cycle, no
AssertionError from a missing ref, no NotImplementedError from `only:`), and every input file
gets its output record, whatever the YAML files contain. -/
theorem build_total (isName : Char → Bool) (consts : Repl) (cat : Category) (files : List (String × FileSrc)) :
    ∃ outs, buildCategory isName consts cat files = .ok outs ∧ outs.length = files.length := by
  have hrefs : cat = .steps ∨ ∀ fe ∈ (files.map fun fs => (fs.1, parseFile cat fs.2)).map fun p => (p.1, p.2.1),
      ∀ e ∈ fe.2, truthy e.ref = true := by
    refine (Decidable.em (cat = .steps)).imp_right fun hc fe hfe e he => ?_
    simp only [List.map_map, List.mem_map, Function.comp] at hfe
    obtain ⟨fs, _, rfl⟩ := hfe
    exact parse_refs_truthy cat fs.2 hc e he
  obtain ⟨outs, h1, h2⟩ := buildFiles_total isName consts cat _ _ _ hrefs
  exact ⟨outs, h1, by simpa using h2⟩

/-- on a registry without inheritance cycle below `e` (the keys followed are pairwise distinct),
every field of the resolved entry is the first value set along `e :: parents` (child first,
transitively) — also when the chain ends in a dangling pointer — and no cycle is reported. -/
theorem reify_eq_mergeChain (reg : Registry) (e : Entry) (r : Resolved)
    (hacyc : (chainKeys reg (topFuel reg) e).Nodup)
    (h : resolve reg (topFuel reg) [] e = .ok r) :
    (∀ i, fieldAt r.entry i = mergeChainField (e :: chain reg (topFuel reg) e) i) ∧
    Diag.inheritanceCycle ∉ r.diags := by
  have hnc : Diag.inheritanceCycle ∉ r.diags := fun hc => (resolve_cycle_top h).1 hc hacyc
  refine ⟨fun i => ?_, hnc⟩
  exact resolve_firstSome (fieldAt · i) (fun o => fieldAt_inherit_none o i) (fun o p => fieldAt_inherit_some o p i)
    (fun _ _ => rfl) h hnc

/-- the replacement table of the resolved entry maps `k` to the value of the first table along
`e :: parents` that defines `k`: the child's replacements win at every level. -/
theorem replacements_child_first (reg : Registry) (e : Entry) (r : Resolved)
    (hacyc : (chainKeys reg (topFuel reg) e).Nodup)
    (h : resolve reg (topFuel reg) [] e = .ok r) (k : Text) :
    replAt r.entry k = mergeChainRepl (e :: chain reg (topFuel reg) e) k :=
  resolve_firstSome (replAt · k) (fun o => replAt_inherit_none o k) (fun o p => replAt_inherit_some o p k)
    (fun _ _ => rfl) h (fun hc => (resolve_cycle_top h).1 hc hacyc)

/-- one inheritance step, without any hypothesis: the child's value wins field-wise and key-wise -/
theorem inherit_child_wins (o p : Entry) (i : Nat) (k : Text) :
    (fieldAt (inheritFrom o (some p)) i = match fieldAt o i with | some v => some v | none => fieldAt p i) ∧
    (replAt (inheritFrom o (some p)) k = match replAt o k with | some v => some v | none => replAt p k) := by
  rw [fieldAt_inherit_some, replAt_inherit_some]
  cases fieldAt o i <;> cases replAt o k <;> exact ⟨rfl, rfl⟩

/-- text without `{` is unchanged and reports nothing -/
theorem no_placeholder_unchanged (isName : Char → Bool) (env : Text → Option Text) (t : Text)
    (h : ∀ c ∈ t, c ≠ '{') : substituteText isName env t = (t, []) := by
  simpa [substituteText_nil] using substituteText_append isName env t [] h

/-- `pre {{k}} post` with brace-free `pre`: the placeholder becomes `env k` (the merged
replacements over the project constants), an unknown name becomes "" plus an UnknownSubstitution
diagnostic, the inserted text is not rescanned and the scan continues with `post`. -/
theorem placeholders_filled (isName : Char → Bool) (env : Text → Option Text) (pre k post : Text)
    (hpre : ∀ c ∈ pre, c ≠ '{') (hne : k ≠ []) (hk : ∀ c ∈ k, isName c = true) (hB : isName '}' = false) :
    substituteText isName env (pre ++ '{' :: '{' :: (k ++ '}' :: '}' :: post)) =
      match env k with
      | some v => (pre ++ v ++ (substituteText isName env post).1, (substituteText isName env post).2)
      | none => (pre ++ (substituteText isName env post).1,
                 Diag.unknownSubstitution k :: (substituteText isName env post).2) := by
  rw [substituteText_append isName env pre _ hpre, substituteText_placeholder isName env k post hne hk hB]
  cases env k <;> simp

/-- the entry's own (merged) replacements shadow the project constants -/
theorem replacements_shadow_constants (consts : Repl) (repl : Repl) (k v : Text)
    (h : repl.lookup k = some v) : envOf consts (some repl) k = some v := by
  simp [envOf, h]

/-- base entries (ref starting with `_`) keep their placeholders -/
theorem base_entry_not_substituted (isName : Char → Bool) (consts : Repl) (refs : List Text) (m : Entry)
    (ds : List Diag) (r : Text) (hr : m.ref = some ('_' :: r)) :
    (finishTop isName consts refs m ds).entry = m := by
  simp [finishTop, hr, wantsSubst]

/-- **An entry without ref is rendered like any other**: its placeholders are filled from its merged replacements and
the project constants, and unknown ones are reported (the code before the repair required a non-empty ref and left
`{{x}}` standing in such a step, unreported). -/
theorem refless_entry_substituted (isName : Char → Bool) (consts : Repl) (refs : List Text) (m : Entry)
    (ds : List Diag) (hr : m.ref = some []) :
    (finishTop isName consts refs m ds).entry.fields = (substFields isName (envOf consts m.replacement) m.fields).1 ∧
    ∀ d ∈ (substFields isName (envOf consts m.replacement) m.fields).2, d ∈ (finishTop isName consts refs m ds).diags := by
  rw [finishTop_refless isName consts refs m ds hr]
  exact ⟨rfl, fun d hd => List.mem_append_right _ hd⟩

/-- an inheritance cycle reachable from `e` is reported on the file (FailedToInheritRef
"Inheritance cycle …") instead of recursing forever -/
theorem cycle_reported (isName : Char → Bool) (consts : Repl) (reg : Registry) (refs : List Text) (e : Entry)
    (r : Reified) (hcyc : ¬ (chainKeys reg (topFuel reg) e).Nodup)
    (h : reifyEntry isName consts reg refs e = .ok r) : Diag.inheritanceCycle ∈ r.diags := by
  obtain ⟨res, hres⟩ := resolve_top reg e
  have hc := (resolve_cycle_top hres).2 hcyc
  rw [reifyEntry_of_resolve isName consts refs hres] at h
  cases h
  split
  · exact finishTop_diags_prefix _ _ _ _ hc
  · exact hc

/-- a parent in a file that is not in the registry: CannotOpenFile, entry returned unmerged,
refs set untouched -/
theorem missing_parent_reported (isName : Char → Bool) (consts : Repl) (reg : Registry) (refs : List Text)
    (e : Entry) (p : Ptr) (hp : parentInfo e = some p) (hf : reg.lookup p.file = none) :
    reifyEntry isName consts reg refs e = .ok ⟨e, [.cannotOpenFile p.file], refs⟩ := by
  simp [reifyEntry, topFuel, resolve, hp, hf]

/-- a parent ref that no entry of the named file answers to: FailedToInheritRef, unmerged -/
theorem missing_parent_ref_reported (isName : Char → Bool) (consts : Repl) (reg : Registry) (refs : List Text)
    (e : Entry) (p : Ptr) (seq : List Entry) (hp : parentInfo e = some p) (hf : reg.lookup p.file = some seq)
    (hr : findParent seq p.ref = none) :
    reifyEntry isName consts reg refs e = .ok ⟨e, [.failedToInheritRef], refs⟩ := by
  simp [reifyEntry, topFuel, resolve, hp, hf, hr]

/-- two successfully resolved entries of one file with the same (non-empty) ref: RefAlreadyExists on the file. Entries
WITHOUT a ref do not share one: `refless_not_duplicates`. -/
theorem duplicate_ref_reported (isName : Char → Bool) (consts : Repl) (reg : Registry) (refs : List Text)
    (e1 e2 : Entry) (rest out : List Entry) (ds : List Diag) (res1 res2 : Resolved) (r : Text) (hne : r ≠ [])
    (h : reifyFile isName consts reg refs (e1 :: rest) = .ok (out, ds))
    (h1 : resolve reg (topFuel reg) [] e1 = .ok res1) (m1 : res1.merged = true) (r1 : res1.entry.ref = some r)
    (hmem : e2 ∈ rest)
    (h2 : resolve reg (topFuel reg) [] e2 = .ok res2) (m2 : res2.merged = true) (r2 : res2.entry.ref = some r) :
    Diag.refAlreadyExists r ∈ ds := by
  obtain ⟨r0, o, d, hr, ho, rfl, rfl⟩ := reifyFile_cons h
  exact List.mem_append_right _ (reifyFile_dup ho hmem h2 m2 r2 hne (reifyEntry_adds_ref h1 m1 r1 hr))

/-- an entry without ref is never reported as a duplicate, whatever refs the file has seen (the code before the repair
compared the empty ref like any other and reported `ref  already exists` for the second ref-less step of a file) -/
theorem refless_not_duplicates (isName : Char → Bool) (consts : Repl) (refs : List Text) (m : Entry) (ds : List Diag)
    (hr : m.ref = some []) (hd : Diag.refAlreadyExists [] ∉ ds)
    (hs : Diag.refAlreadyExists [] ∉ (substFields isName (envOf consts m.replacement) m.fields).2) :
    Diag.refAlreadyExists [] ∉ (finishTop isName consts refs m ds).diags := by
  rw [finishTop_refless isName consts refs m ds hr]
  simp [hd, hs]

/-- the reified value of every entry of a file is the value it has when reified alone: failures,
duplicate refs and diagnostics of the other entries never change it, and no entry is dropped -/
theorem others_unaffected (isName : Char → Bool) (consts : Repl) (reg : Registry) (refs : List Text)
    (es out : List Entry) (ds : List Diag) (h : reifyFile isName consts reg refs es = .ok (out, ds)) :
    out = es.map (valueOf isName consts reg) :=
  reifyFile_values h

/-- registries that give the same answers to the pointers dereferenced from `e` (so: any change,
damage or failure in entries `e` does not depend on) give the same reified value and the same
diagnostics for `e` -/
theorem others_unaffected_registry (isName : Char → Bool) (consts : Repl) (reg reg' : Registry)
    (refs : List Text) (e : Entry)
    (h : ∀ p ∈ ptrs reg (max (topFuel reg) (topFuel reg')) e, answer reg p = answer reg' p) :
    reifyEntry isName consts reg refs e = reifyEntry isName consts reg' refs e := by
  obtain ⟨r, hr⟩ := resolve_top reg e
  obtain ⟨r', hr'⟩ := resolve_top reg' e
  -- both runs, given the larger fuel, are one and the same
  have h1 := resolve_transfer (reg' := reg) hr (Nat.le_max_left _ (topFuel reg')) (fun _ _ => rfl)
  have h2 := resolve_transfer (reg' := reg') hr' (Nat.le_max_right (topFuel reg) _) (fun _ _ => rfl)
  rw [resolve_transfer h1 (Nat.le_refl _) h] at h2
  cases h2
  rw [reifyEntry_of_resolve isName consts refs hr, reifyEntry_of_resolve isName consts refs hr']

/-- a bad document costs exactly its own entry: the entries kept by `parse` are the well-typed
documents in order (steps), one UnmarshallingError per bad document -/
theorem bad_document_isolated (ds1 ds2 : List Doc) :
    (parseFile .steps (.docs (ds1 ++ .bad :: ds2))).1 = (parseFile .steps (.docs (ds1 ++ ds2))).1 ∧
    (parseFile .steps (.docs (ds1 ++ .bad :: ds2))).2.length = (parseFile .steps (.docs (ds1 ++ ds2))).2.length + 1 := by
  simp only [parseFile, List.filterMap_append, List.filterMap_cons, List.length_append, List.length_cons]
  exact ⟨trivial, by omega⟩

/-- a falsy document (stray `---`, `null`, `{}`) is skipped and does not end the file -/
theorem empty_document_skipped (cat : Category) (ds1 ds2 : List Doc) :
    parseFile cat (.docs (ds1 ++ .empty :: ds2)) = parseFile cat (.docs (ds1 ++ ds2)) := by
  simp only [parseFile, List.filterMap_append, List.filterMap_cons]

/-- steps: exactly one page per file, whatever the entries -/
theorem page_count_steps (file : String) (es : List Entry) :
    ∃ p, pagesOf .steps file es = .ok [p] := ⟨_, rfl⟩

/-- extracts / release: one page per entry whose ref does not start with `_` -/
theorem page_count (cat : Category) (hc : cat ≠ .steps) (file : String) (es : List Entry)
    (h : ∀ e ∈ es, ∃ x, e.ref = some x) :
    ∃ ps, pagesOf cat file es = .ok ps ∧
      ps.length = (es.filter (fun e => match e.ref with | some r => !startsUnderscore r | none => false)).length := by
  cases cat with
  | steps => exact absurd rfl hc
  | extracts => exact namedPages_ok "extracts" extractRenderDiags es h
  | release => exact namedPages_ok "release" (fun _ => []) es h

/-! ## non-vacuity: concrete registries -/

def isN : Char → Bool := isNameChar (fun c => c.isAlphanum || c == '_')
def T (s : String) : Text := s.toList
def mk (ref : String) (repl : Option (List (String × String))) (inh : Option (String × String))
    (fields : List (Option String)) : Entry :=
  ⟨some (T ref), repl.map (fun l => l.map (fun kv => (T kv.1, T kv.2))), none,
   inh.map (fun p => ⟨p.1, T p.2⟩), fields.map (fun f => f.map (fun s => Val.str (T s)))⟩

/-- `_b` ← `b` ← `a`, replacements overlapping at every level -/
def reg1 : Registry := [("f.yaml", [
  mk "a" (some [("x", "XA")]) (some ("f.yaml", "b")) [none, none],
  mk "b" (some [("x", "XB"), ("y", "YB")]) (some ("f.yaml", "_b")) [some "{{x}}{{y}}", none],
  mk "_b" (some [("y", "YC"), ("z", "ZC")]) none [some "base", some "{{x}} {{y}} {{z}} {{v}} {{u}}"]])]
def a1 : Entry := mk "a" (some [("x", "XA")]) (some ("f.yaml", "b")) [none, none]

example : (chainKeys reg1 (topFuel reg1) a1).Nodup := by decide +kernel
example : (match reifyEntry isN [(T "v", T "4.2")] reg1 [] a1 with
    | .ok r => (r.entry.fields, r.entry.replacement, r.diags)
    | .error _ => ([], none, [])) =
    ([some (.str (T "XAYB")), some (.str (T "XA YB ZC 4.2 "))],
     some [(T "x", T "XA"), (T "y", T "YB"), (T "z", T "ZC")],
     [.unknownSubstitution (T "u")]) := by decide +kernel

/-- `reg1` plus a file of failing entries (cycle, dangling pointer) that `a1` does not depend on -/
def reg1' : Registry := reg1 ++ [("g.yaml", [
  mk "q" none (some ("g.yaml", "q")) [some "loop", none],
  mk "w" none (some ("nowhere.yaml", "w")) [none, none]])]
example : ∀ p ∈ ptrs reg1 (max (topFuel reg1) (topFuel reg1')) a1, answer reg1 p = answer reg1' p := by decide +kernel
example : (ptrs reg1 (max (topFuel reg1) (topFuel reg1')) a1).length = 2 := by decide +kernel

/-- a 2-cycle and a self loop -/
def reg2 : Registry := [("f.yaml", [
  mk "a" none (some ("f.yaml", "b")) [some "ca", none],
  mk "b" none (some ("f.yaml", "a")) [none, some "pb"],
  mk "s" none (some ("f.yaml", "s")) [some "self", none]])]
def a2 : Entry := mk "a" none (some ("f.yaml", "b")) [some "ca", none]
def s2 : Entry := mk "s" none (some ("f.yaml", "s")) [some "self", none]

example : ¬ (chainKeys reg2 (topFuel reg2) a2).Nodup := by decide +kernel
example : ¬ (chainKeys reg2 (topFuel reg2) s2).Nodup := by decide +kernel
example : (match reifyEntry isN [] reg2 [] a2 with
    | .ok r => (r.entry.fields, r.diags) | .error _ => ([], [])) =
    ([some (.str (T "ca")), some (.str (T "pb"))], [.inheritanceCycle]) := by decide +kernel
example : (match reifyFile isN [] reg2 [] [a2, s2, a2] with
    | .ok (out, ds) => (out.length, ds) | .error _ => (0, [])) =
    (3, [.inheritanceCycle, .inheritanceCycle, .inheritanceCycle, .refAlreadyExists (T "a")]) := by decide +kernel

-- The kernel evaluates `"…".toList` by decoding UTF-8 byte by byte, at many times the cost of the scan; where the literals
-- stand in the statement itself, `rw [String.toList_ofList]` first puts the character list in place of each (`rw`
-- unifies a literal with `String.ofList _`, `simp` does not).
example : substituteText isN (fun k => if k = T "x" then some (T "{{y}}") else none) (T "a {{x}}{{{x}}} {{ x }} {{q-1}}{{x}") =
    (T "a {{y}}{{{y}}} {{ x }} {{x}", [.unknownSubstitution (T "q-1")]) := by
  unfold T
  repeat rw [String.toList_ofList]
  decide +kernel
example : isN '}' = false := by decide

example : (match buildCategory isN [] .extracts [("extracts-f.yaml", .docs [
      .entry (mk "_b" none none [none, none, none, none, none, some "html", none, none]),
      .bad, .empty,
      .entry (mk "a" none (some ("extracts-f.yaml", "_b")) [none, none, none, none, some "c", none, none, none]),
      .entry (mk "" none none []),
      .entry (mk "c" none (some ("extracts-missing.yaml", "q")) [])])] with
    | .ok [o] => (o.diags, o.pages.map (fun p => (String.ofList p.name, p.diags)))
    | _ => ([], [])) =
    ([.unmarshallingError, .missingRef, .cannotOpenFile "extracts-missing.yaml"],
     [("a.rst", [.invalidField]), ("c.rst", [])]) := by decide +kernel

example : (match pagesOf .steps "steps-foo.bar.yaml" [] with
    | .ok ps => ps.map (fun p => String.ofList p.name) | .error _ => []) = ["foo.bar.rst"] := by decide +kernel

end SnootyVerif.C18
