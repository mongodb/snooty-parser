import SnootyVerif.Proofs.Determinism

/-!
# C05 — Builds are deterministic and reproducible

Property theorems for the order-normalising kernels (model: `Model/Determinism.lean`, helper
lemmas: `Proofs/Determinism.lean`). A Python `set` is a list in *enumeration order*; "the
result does not depend on hash randomisation / arrival order" is invariance under `List.Perm`.
The cross-process part of the property is checked by differential execution (harness).
-/
namespace SnootyVerif.C05
open SnootyVerif.Determinism

/-- The pages handed to the postprocessor do not depend on the order in which the parser
workers delivered them (every page delivered once: distinct keys). -/
theorem snapshot_perm_invariant {κ π : Type} [DecidableEq κ] {le : κ → κ → Bool} (h : LinOrd le)
    {arrivals₁ arrivals₂ : List (κ × π)} (hp : arrivals₁.Perm arrivals₂)
    (hn : (arrivals₁.map Prod.fst).Nodup) :
    snapshotOf le arrivals₁ = snapshotOf le arrivals₂ :=
  isort_foldl_step_perm upsert_step h hp hn

/-- … and they are in ascending key order, whatever the arrival order. -/
theorem snapshot_sorted {κ π : Type} [DecidableEq κ] {le : κ → κ → Bool} (h : LinOrd le)
    (arrivals : List (κ × π)) :
    (snapshotOf le arrivals).Pairwise (fun a b => le a.1 b.1 = true) :=
  pairwise_isort h Prod.fst _

/-- A page delivered again replaces the earlier delivery (dict semantics): with a repeated
key the later value wins, independently of where the other pages arrive. -/
theorem snapshot_last_wins_example :
    snapshotOf pathLe [([[98]], 1), ([[97]], 2), ([[98]], 3)] = [([[97]], 2), ([[98]], 3)] := by decide +kernel

example : snapshotOf pathLe [([[98]], "b"), ([[97], [120]], "a/x"), ([[97]], "a")]
        = snapshotOf pathLe [([[97]], "a"), ([[98]], "b"), ([[97], [120]], "a/x")] :=
  snapshot_perm_invariant pathLe_linOrd (by decide +kernel) (by decide +kernel)

/-- General form (a key may be delivered several times, the last delivery wins): swapping two
*adjacent deliveries of different pages* — the only reordering the worker pool can cause while
keeping each page's own deliveries in order — never changes the snapshot. Every interleaving that
preserves the per-page order is reachable by such swaps. -/
theorem snapshot_swap_invariant {κ π : Type} [DecidableEq κ] {le : κ → κ → Bool} (h : LinOrd le)
    (pre post : List (κ × π)) (a b : κ × π) (hne : a.1 ≠ b.1) :
    snapshotOf le (pre ++ a :: b :: post) = snapshotOf le (pre ++ b :: a :: post) :=
  isort_foldl_step_swap upsert_step h pre post hne

example : snapshotOf pathLe ([([[98]], 1)] ++ ([[97]], 2) :: ([[98]], 3) :: [([[97]], 4)])
        = snapshotOf pathLe ([([[98]], 1)] ++ ([[98]], 3) :: ([[97]], 2) :: [([[97]], 4)]) :=
  snapshot_swap_invariant pathLe_linOrd _ _ _ _ (by decide)

/-- The uploadable assets of a page are emitted in an order that does not depend on how the
`static_assets` set is enumerated (asset keys of one page are distinct). -/
theorem manifest_perm_invariant {κ π : Type} {le : κ → κ → Bool} (h : LinOrd le)
    {enum₁ enum₂ : List (κ × Bool × π)} (hp : enum₁.Perm enum₂) (hn : (enum₁.map Prod.fst).Nodup) :
    manifestAssets le enum₁ = manifestAssets le enum₂ := by
  unfold manifestAssets
  refine isort_key_eq_of_perm h Prod.fst (hp.filter _) ?_
  exact List.Nodup.sublist ((List.filter_sublist).map Prod.fst) hn

/-- The same for the page's asset SET as the code holds it: members differ in their file ids (set identity), the
spelling under which the page refers to them may coincide; the order written to the page's document does not depend
on how the set is enumerated. -/
theorem manifest_set_invariant {π : Type} {enum₁ enum₂ : List (Asset π)} (hp : enum₁.Perm enum₂)
    (hn : (enum₁.map (fun a => a.2.1)).Nodup) :
    manifestOfSet enum₁ = manifestOfSet enum₂ := by
  unfold manifestOfSet
  refine manifest_perm_invariant pathLe_linOrd (hp.map _) ?_
  rw [List.map_map]
  -- sort keys `[spelling, fileid]` that are equal have equal second entries
  exact List.pairwise_map.mpr ((List.pairwise_map.mp hn).imp fun hne e => hne (List.cons.inj (List.cons.inj e).2).1)

/-- The code before the repair sorted by the spelling alone: two files under one spelling came out in the order the
set happened to enumerate them (string hashing). -/
theorem manifest_key_only_refuted :
    ∃ e₁ e₂ : List (Asset Nat), e₁.Perm e₂ ∧ (e₁.map (fun a => a.2.1)).Nodup ∧
      manifestOfSetKeyOnly e₁ ≠ manifestOfSetKeyOnly e₂ :=
  ⟨[([112], [97, 47, 112], true, 1), ([112], [98, 47, 112], true, 2)],
   [([112], [98, 47, 112], true, 2), ([112], [97, 47, 112], true, 1)],
   List.Perm.swap _ _ _, by decide +kernel, by decide +kernel⟩

example : manifestOfSet [([112], [97, 47, 112], true, 1), ([112], [98, 47, 112], true, 2)]
        = manifestOfSet [([112], [98, 47, 112], true, 2), ([112], [97, 47, 112], true, 1)] :=
  manifest_set_invariant (List.Perm.swap _ _ _) (by decide +kernel)

/-- The `diagnostics/<file>.bson` entries are written in an order that does not depend on the
order in which the files reported (each file reporting once). -/
theorem manifest_diagnostics_perm_invariant {κ δ : Type} [DecidableEq κ] {le : κ → κ → Bool} (h : LinOrd le)
    {ev₁ ev₂ : List (κ × List δ)} (hp : ev₁.Perm ev₂) (hn : (ev₁.map Prod.fst).Nodup) :
    manifestDiagnostics le ev₁ = manifestDiagnostics le ev₂ :=
  isort_foldl_step_perm extendAt_step h hp hn

/-- General form (a file reports several times: parse, postprocess, assets): swapping two adjacent
reports of *different files* never changes the manifest entries — in particular the order of the
diagnostics *within* each file's entry is the order in which that file reported them. -/
theorem manifest_diagnostics_swap_invariant {κ δ : Type} [DecidableEq κ] {le : κ → κ → Bool} (h : LinOrd le)
    (pre post : List (κ × List δ)) (e₁ e₂ : κ × List δ) (hne : e₁.1 ≠ e₂.1) :
    manifestDiagnostics le (pre ++ e₁ :: e₂ :: post) = manifestDiagnostics le (pre ++ e₂ :: e₁ :: post) :=
  isort_foldl_step_swap extendAt_step h pre post hne

example : manifestDiagnostics pathLe ([([[98]], ["e1"])] ++ ([[97]], ["e2"]) :: ([[98]], ["e3"]) :: [])
        = manifestDiagnostics pathLe ([([[98]], ["e1"])] ++ ([[98]], ["e3"]) :: ([[97]], ["e2"]) :: []) :=
  manifest_diagnostics_swap_invariant pathLe_linOrd _ _ _ _ (by decide)

/-- entries come out in ascending key order for *every* event sequence -/
theorem manifest_diagnostics_sorted {κ δ : Type} [DecidableEq κ] {le : κ → κ → Bool} (h : LinOrd le)
    (ev : List (κ × List δ)) :
    (manifestDiagnostics le ev).Pairwise (fun a b => le a.1 b.1 = true) :=
  pairwise_isort h Prod.fst _

example : manifestAssets pathLe [([[98]], true, 0), ([[99]], false, 1), ([[97]], true, 2)]
        = manifestAssets pathLe [([[97]], true, 2), ([[98]], true, 0), ([[99]], false, 1)] :=
  manifest_perm_invariant pathLe_linOrd (by decide +kernel) (by decide +kernel)

example : manifestDiagnostics pathLe [([[98]], ["e1"]), ([[97]], []), ([[97]], ["e2"]), ([[98]], ["e3"])]
        = [([[97]], ["e2"]), ([[98]], ["e1", "e3"])] := by decide +kernel

/-- Fixed `structural_hash`: the digest of a set depends on its member digests only as a
multiset — for every hash function `H` (compositional form: holds at any nesting depth). -/
theorem shash_set_digest_perm_invariant (H : List Nat → List Nat) {xs ys : List HVal}
    {dx dy : List (List Nat)} (hx : memberDigests (isort bytesLe) H xs = .ok dx)
    (hy : memberDigests (isort bytesLe) H ys = .ok dy) (hp : dx.Perm dy) :
    shash H (.set xs) = shash H (.set ys) := by
  have hl : xs.length = ys.length := by
    rw [← memberDigests_length _ _ xs dx hx, ← memberDigests_length _ _ ys dy hy]; exact hp.length_eq
  unfold shash
  rw [shashW_set, shashW_set, hx, hy, hl, Except.map, Except.map, isort_eq_of_perm_linOrd bytesLe_linOrd hp]

/-- Fixed `structural_hash`: two enumeration orders of the same set hash equal (digest or
`TypeError` alike), for every hash function `H`. -/
theorem shash_set_perm_invariant (H : List Nat → List Nat) {xs ys : List HVal} (hp : xs.Perm ys) :
    shash H (.set xs) = shash H (.set ys) := by
  unfold shash
  rw [shashW_set, shashW_set, hp.length_eq]
  exact memberDigests_perm _ H hp _ fun a b hab => by rw [isort_eq_of_perm_linOrd bytesLe_linOrd hab]

/-- `structural_hash` before the fix: with an injective (free) hash, the two enumeration orders of
the set `{"a", "b"}` give different digests — the cache file name depends on PYTHONHASHSEED. -/
theorem shash_set_order_refuted :
    ∃ xs ys : List HVal, xs.Perm ys ∧ shashCur freeHash (.set xs) ≠ shashCur freeHash (.set ys) :=
  ⟨[.prim [97], .prim [98]], [.prim [98], .prim [97]], List.Perm.swap _ _ _, by decide +kernel⟩

/-- sequences stay order-sensitive after the fix (the fix does not over-normalise) -/
theorem shash_seq_order_sensitive :
    shash freeHash (.seq [.prim [97], .prim [98]]) ≠ shash freeHash (.seq [.prim [98], .prim [97]]) := by decide +kernel

/-- non-vacuity: a nested value with a set inside a record inside a set; a `nohash` field holding an
unhashable object is skipped; an unhashable member raises in both orders. -/
example : shash freeHash (.set [.record [.mk [115] false (.set [.prim [49], .enum [69, 46, 120]])], .none])
        = shash freeHash (.set [.none, .record [.mk [115] false (.set [.enum [69, 46, 120], .prim [49]])]]) := by decide +kernel
example : shash freeHash (.record [.mk [98] true .other, .mk [97] false (.prim [49])])
        = .ok [79, 50, 32, 70, 49, 32, 97, 80, 49] := by decide +kernel
example : shash freeHash (.set [.other, .none]) = .error .typeError ∧
          shash freeHash (.set [.none, .other]) = .error .typeError := by decide +kernel

/-- Fixed message: independent of the enumeration order of the missing-options set. -/
theorem missingOptionsMsg_perm_invariant (name : List Char) {e₁ e₂ : List (List Char)} (hp : e₁.Perm e₂) :
    missingOptionsMsg name e₁ = missingOptionsMsg name e₂ := by
  unfold missingOptionsMsg
  rw [isort_eq_of_perm_linOrd strLe_linOrd hp]

/-- Before the fix the text depended on the enumeration order. -/
theorem missingOptionsMsgCur_refuted :
    ∃ e₁ e₂ : List (List Char), e₁.Perm e₂ ∧ missingOptionsMsgCur ['d'] e₁ ≠ missingOptionsMsgCur ['d'] e₂ :=
  ⟨[['a'], ['b']], [['b'], ['a']], List.Perm.swap _ _ _, by decide +kernel⟩

example : String.ofList (missingOptionsMsg ['d'] [['b'], ['a']]) = "\"d\" requires the following options: a, b" :=
  -- compared as lists of characters: equality of `String`s is slow to evaluate
  congrArg String.ofList (by decide +kernel : missingOptionsMsg ['d'] [['b'], ['a']] = _)

/-- Fixed `check_valid_child` text: independent of the enumeration order of the expected-children set. -/
theorem expectedChildrenStr_perm_invariant (quote : List Char → List Char) {e₁ e₂ : List (List Char)}
    (hp : e₁.Perm e₂) : expectedChildrenStr quote e₁ = expectedChildrenStr quote e₂ :=
  match e₁, e₂, hp with
  | [], _, hp => by rw [List.nil_perm.mp hp]
  | [_], _, hp => by rw [List.singleton_perm.mp hp]
  | _ :: _ :: _, [], hp => nomatch List.perm_nil.mp hp
  | _ :: _ :: _, [_], hp => nomatch List.perm_singleton.mp hp
  | _ :: _ :: _, _ :: _ :: _, hp => congrArg (setDisplay quote) (isort_eq_of_perm_linOrd strLe_linOrd hp)

theorem expectedChildrenStrCur_refuted :
    ∃ e₁ e₂ : List (List Char), e₁.Perm e₂ ∧
      expectedChildrenStrCur (fun s => s) e₁ ≠ expectedChildrenStrCur (fun s => s) e₂ :=
  ⟨[['a'], ['b']], [['b'], ['a']], List.Perm.swap _ _ _, by decide +kernel⟩

example : expectedChildrenStr (fun s => ['\''] ++ s ++ ['\'']) [['o'], ['d']] = "{'d', 'o'}".toList := by decide +kernel

end SnootyVerif.C05
