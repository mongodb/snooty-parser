import SnootyVerif.Proofs.LitInc

/-!
# C20 — Literal includes show exactly the requested part of the file

Property theorems only.  Model: `Model/LitInc.lean` (the handler of `literalinclude` / `input` /
`output`, `lines_contain`, `parse_linenos`, the io-code-block option copy).  Specification-level
definitions (`firstMatch`, `lowerBound`, `upperBound`) and helper lemmas: `Proofs/LitInc.lean`.
`isWord` is Python's `\w`, `isSpace` is `str.isspace`; every theorem holds for all instantiations.
-/
namespace SnootyVerif.C20
open SnootyVerif.LitInc

/-! ## the marker recogniser -/

/-- A line carries a marker iff it is the marker surrounded only by non-word characters
(`^\W*marker\W*$`). -/
theorem marker_line_iff (isWord : Char → Bool) (marker line : Line) :
    matchLine isWord marker line = true ↔
      ∃ p s, line = p ++ marker ++ s ∧ allNonWord isWord p = true ∧ allNonWord isWord s = true :=
  matchLine_iff isWord marker line

-- In the test vectors the kernel would evaluate `"…".toList` by decoding UTF-8 byte by byte, at many times the cost of running
-- the model; `rw [String.toList_ofList]` first puts the character list in place of a literal's `toList` (`rw` unifies a
-- literal with `String.ofList _`, `simp` does not).
example : matchLine (fun c => c.isAlphanum) "start".toList "  // start */".toList = true := by
  repeat rw [String.toList_ofList]
  decide +kernel
example : matchLine (fun c => c.isAlphanum) "start".toList "x = start + 1".toList = false := by
  repeat rw [String.toList_ofList]
  decide +kernel

/-- `lines_contain` yields exactly the indices of the lines carrying the marker, increasing. -/
theorem lines_contain_spec (isWord : Char → Bool) (marker : Line) (lines : List Line) :
    (∀ k, k ∈ linesContain isWord marker lines ↔
        ∃ h : k < lines.length, matchLine isWord marker lines[k] = true) ∧
    (linesContain isWord marker lines).Pairwise (· < ·) :=
  ⟨mem_linesContain isWord marker lines, linesContain_sorted isWord marker lines⟩

example : linesContain (fun c => c.isAlphanum) "m".toList
    ["a".toList, "// m".toList, "m2".toList, "# m #".toList] = [1, 3] := by
  repeat rw [String.toList_ofList]
  decide +kernel

/-- `firstMatch = some i` means: line `i` carries the marker and no earlier line does. -/
theorem first_match_spec (isWord : Char → Bool) (marker : Line) (lines : List Line) (i : Nat) :
    firstMatch isWord marker lines = some i ↔
      ∃ pre l post, lines = pre ++ l :: post ∧ pre.length = i ∧ matchLine isWord marker l = true ∧
        ∀ x ∈ pre, matchLine isWord marker x = false :=
  firstMatch_some_iff isWord marker lines i

example : firstMatch (fun c => c.isAlphanum) "m".toList
    ["a".toList, "// m".toList, "m2".toList, "# m #".toList] = some 1 := by decide +kernel

/-! ## the excerpt: index arithmetic -/

/-- For every combination of options and every file: the excerpt is the slice from just after the
first start-marker line (file start if not requested / absent) up to the first end-marker line
(file end if not requested / absent). -/
theorem excerpt_bounds (isWord : Char → Bool) (sa eb : Option Line) (lines : List Line) :
    (excerpt isWord sa eb lines).1 =
      (lines.take (upperBound isWord eb lines)).drop (lowerBound isWord sa lines) :=
  excerpt_fst isWord sa eb lines

example :
    upperBound (fun c => c.isAlphanum) (some "E".toList) ["a".toList, "# S".toList, "b".toList, "# E".toList] = 3 ∧
    lowerBound (fun c => c.isAlphanum) (some "S".toList) ["a".toList, "# S".toList, "b".toList, "# E".toList] = 2 := by
  decide +kernel

/-- when the order diagnostic is emitted -/
theorem diag_order_iff (isWord : Char → Bool) (sa eb : Option Line) (lines : List Line) :
    Diag.order ∈ (excerpt isWord sa eb lines).2 ↔
      ∃ s e j, sa = some s ∧ eb = some e ∧ firstMatch isWord e lines = some j ∧
        j < lowerBound isWord sa lines := by
  simp only [mem_excerpt_snd, mem_locate_snd, reduceCtorEq, false_and, and_false, or_false, false_or, exists_false,
    true_and]

/-- when a "not found" diagnostic is emitted -/
theorem diag_notFound_iff (isWord : Char → Bool) (sa eb : Option Line) (lines : List Line) :
    Diag.notFound ∈ (excerpt isWord sa eb lines).2 ↔
      (∃ s, sa = some s ∧ firstMatch isWord s lines = none) ∨
      (∃ e, eb = some e ∧ firstMatch isWord e lines = none) := by
  simp only [mem_excerpt_snd, mem_locate_snd, linesContain_eq_nil_iff, reduceCtorEq, false_and, or_false, true_and]

/-- when the ambiguity warning is emitted -/
theorem diag_ambiguous_iff (isWord : Char → Bool) (sa eb : Option Line) (lines : List Line) :
    Diag.ambiguous ∈ (excerpt isWord sa eb lines).2 ↔
      (∃ s, sa = some s ∧ 2 ≤ (linesContain isWord s lines).length) ∨
      (∃ e, eb = some e ∧ 2 ≤ (linesContain isWord e lines).length) := by
  simp only [mem_excerpt_snd, mem_locate_snd, reduceCtorEq, false_and, or_false, false_or, true_and]

example :
    (excerpt (fun c => c.isAlphanum) (some "S".toList) (some "E".toList)
      ["# S".toList, "# E".toList, "x".toList, "# E".toList]).2 = [Diag.ambiguous] := by decide +kernel

/-- Both markers present and in order: the excerpt is exactly `lines[i+1 : j]`; no marker is
reported missing; with at least one line between the markers there is no order diagnostic. -/
theorem excerpt_spec (isWord : Char → Bool) (s e : Line) (lines : List Line) (i j : Nat)
    (hs : firstMatch isWord s lines = some i) (he : firstMatch isWord e lines = some j) (h : i < j) :
    (excerpt isWord (some s) (some e) lines).1 = (lines.take j).drop (i + 1) ∧
    Diag.notFound ∉ (excerpt isWord (some s) (some e) lines).2 ∧
    (i + 1 < j → Diag.order ∉ (excerpt isWord (some s) (some e) lines).2) := by
  refine ⟨excerpt_fst_of_found hs he, ?_, fun hlt => ?_⟩
  · simp [diag_notFound_iff, hs, he]
  · rw [order_mem_iff_of_found hs he]; omega

/-- The same, stated on the file itself: if the file is `pre ++ [start line] ++ mid ++ [end line]
++ post`, where the start line is the first to carry the start marker and the end line the first to
carry the end marker, the excerpt is exactly `mid`. -/
theorem excerpt_between (isWord : Char → Bool) (s e : Line) (pre mid post : List Line) (sl el : Line)
    (hsl : matchLine isWord s sl = true) (hpre : ∀ x ∈ pre, matchLine isWord s x = false)
    (hel : matchLine isWord e el = true)
    (hnoe : ∀ x ∈ pre ++ sl :: mid, matchLine isWord e x = false) :
    (excerpt isWord (some s) (some e) (pre ++ sl :: (mid ++ el :: post))).1 = mid := by
  have hs : firstMatch isWord s (pre ++ sl :: (mid ++ el :: post)) = some pre.length :=
    (firstMatch_some_iff ..).mpr ⟨pre, sl, mid ++ el :: post, rfl, rfl, hsl, hpre⟩
  have he : firstMatch isWord e (pre ++ sl :: (mid ++ el :: post)) = some (pre ++ sl :: mid).length :=
    (firstMatch_some_iff ..).mpr ⟨pre ++ sl :: mid, el, post, by simp, rfl, hel, hnoe⟩
  rw [excerpt_fst_of_found hs he]
  simp [List.take_append, List.drop_append]

example :
    (excerpt (fun c => c.isAlphanum) (some "S".toList) (some "E".toList)
      ["a".toList, "// S".toList, "  b".toList, "c".toList, "# E".toList, "d".toList]).1
      = ["  b".toList, "c".toList] := by decide +kernel

/-- No markers requested: the whole file, no diagnostics. -/
theorem excerpt_whole (isWord : Char → Bool) (lines : List Line) :
    excerpt isWord none none lines = (lines, []) :=
  Prod.ext (by simp [excerpt_bounds, upperBound, lowerBound]) rfl

/-- A requested start marker that no line carries is reported, and the excerpt starts at the
beginning of the file. -/
theorem excerpt_missing_start (isWord : Char → Bool) (s : Line) (eb : Option Line) (lines : List Line)
    (hs : firstMatch isWord s lines = none) :
    Diag.notFound ∈ (excerpt isWord (some s) eb lines).2 ∧
    (excerpt isWord (some s) eb lines).1 = lines.take (upperBound isWord eb lines) := by
  refine ⟨(diag_notFound_iff ..).mpr (Or.inl ⟨s, rfl, hs⟩), ?_⟩
  rw [excerpt_bounds]; simp [lowerBound, hs]

/-- A requested end marker that no line carries is reported, and the excerpt runs to the end of the
file. -/
theorem excerpt_missing_end (isWord : Char → Bool) (sa : Option Line) (e : Line) (lines : List Line)
    (he : firstMatch isWord e lines = none) :
    Diag.notFound ∈ (excerpt isWord sa (some e) lines).2 ∧
    (excerpt isWord sa (some e) lines).1 = lines.drop (lowerBound isWord sa lines) := by
  refine ⟨(diag_notFound_iff ..).mpr (Or.inr ⟨e, rfl, he⟩), ?_⟩
  rw [excerpt_bounds]; simp [upperBound, he]

example : Diag.notFound ∈ (excerpt (fun c => c.isAlphanum) (some "S".toList) none ["a".toList, "b".toList]).2 := by
  decide +kernel
example :
    excerpt (fun c => c.isAlphanum) (some "S".toList) (some "E".toList) ["a".toList, "# S".toList, "b".toList]
      = (["b".toList], [Diag.notFound]) := by decide +kernel

/-- Markers out of order (the end marker's first line is not after the start marker's first line):
reported, and the excerpt is empty — never a silently wrong excerpt. -/
theorem excerpt_reversed (isWord : Char → Bool) (s e : Line) (lines : List Line) (i j : Nat)
    (hs : firstMatch isWord s lines = some i) (he : firstMatch isWord e lines = some j) (h : j ≤ i) :
    Diag.order ∈ (excerpt isWord (some s) (some e) lines).2 ∧
    (excerpt isWord (some s) (some e) lines).1 = [] :=
  ⟨(order_mem_iff_of_found hs he).mpr h, excerpt_fst_eq_nil_of_found hs he (Nat.le_succ_of_le h)⟩

example :
    excerpt (fun c => c.isAlphanum) (some "S".toList) (some "E".toList)
      ["# E".toList, "a".toList, "# S".toList, "b".toList] = ([], [Diag.order]) := by decide +kernel

/-- **Adjacent markers** (the end marker on the line right after the start marker): the excerpt is the correct empty
one and nothing is reported - the markers ARE in order. (The code before the repair tested `start_after >= end_before`
with `start_after` already past the marker line and reported "precedes" here.) -/
theorem excerpt_adjacent_unreported (isWord : Char → Bool) (s e : Line) (lines : List Line) (i : Nat)
    (hs : firstMatch isWord s lines = some i) (he : firstMatch isWord e lines = some (i + 1)) :
    (excerpt isWord (some s) (some e) lines).1 = [] ∧
    Diag.order ∉ (excerpt isWord (some s) (some e) lines).2 := by
  refine ⟨excerpt_fst_eq_nil_of_found hs he (Nat.le_refl _), ?_⟩
  rw [order_mem_iff_of_found hs he]; omega

/-- **The order diagnostic is never invented**: it is emitted only when both markers were requested, both are carried by
lines of the file, and the end marker's first line is not after the start marker's first line. -/
theorem order_diag_sound (isWord : Char → Bool) (sa eb : Option Line) (lines : List Line)
    (h : Diag.order ∈ (excerpt isWord sa eb lines).2) :
    ∃ s e j, sa = some s ∧ eb = some e ∧ firstMatch isWord e lines = some j ∧
      (∀ i, firstMatch isWord s lines = some i → j ≤ i) := by
  obtain ⟨s, e, j, rfl, he, hj, hlt⟩ := (diag_order_iff ..).mp h
  refine ⟨s, e, j, rfl, he, hj, fun i hi => ?_⟩
  simp only [lowerBound, hi] at hlt
  omega

example :
    firstMatch (fun c => c.isAlphanum) "S".toList ["a".toList, "# S".toList, "# E".toList] = some 1 ∧
    firstMatch (fun c => c.isAlphanum) "E".toList ["a".toList, "# S".toList, "# E".toList] = some 2 ∧
    excerpt (fun c => c.isAlphanum) (some "S".toList) (some "E".toList) ["a".toList, "# S".toList, "# E".toList]
      = ([], []) := by decide +kernel

/-- The excerpt is always a contiguous block of the file's lines, in order, each unchanged. -/
theorem excerpt_sublist (isWord : Char → Bool) (sa eb : Option Line) (lines : List Line) :
    ∃ pre post, lines = pre ++ (excerpt isWord sa eb lines).1 ++ post := by
  rw [excerpt_bounds]
  refine ⟨(lines.take (upperBound isWord eb lines)).take (lowerBound isWord sa lines),
          lines.drop (upperBound isWord eb lines), ?_⟩
  rw [List.take_append_drop, List.take_append_drop]

/-- The search diagnostics are only of the three kinds above. -/
theorem excerpt_diag_kinds (isWord : Char → Bool) (sa eb : Option Line) (lines : List Line) :
    ∀ d ∈ (excerpt isWord sa eb lines).2, d = Diag.notFound ∨ d = Diag.ambiguous ∨ d = Diag.order := by
  intro d hd
  simp only [mem_excerpt_snd, mem_locate_snd] at hd
  rcases hd with ⟨_, _, h | h⟩ | ⟨_, _, h | h⟩ | h <;> simp [h.1]

/-- The handler before the fix crashed (`UnboundLocalError`) when only `end-before` is given and the
first line carries the marker (and symmetrically for `start-after` on the last line). -/
theorem orig_total_refuted :
    excerptOrig (fun c => c.isAlphanum) none (some "E".toList) ["// E".toList, "x".toList]
      = .error PyErr.unboundLocal ∧
    excerptOrig (fun c => c.isAlphanum) (some "S".toList) none ["x".toList, "// S".toList]
      = .error PyErr.unboundLocal := by decide +kernel

/-- … the fixed handler returns the (correct) empty excerpt there, without diagnostics. -/
theorem fixed_single_marker_edge :
    excerpt (fun c => c.isAlphanum) none (some "E".toList) ["// E".toList, "x".toList] = ([], []) ∧
    excerpt (fun c => c.isAlphanum) (some "S".toList) none ["x".toList, "// S".toList] = ([], []) := by
  decide +kernel

/-! ## dedent -/

/-- `:dedent: n` — every line is the original line without its first `n` characters. -/
theorem dedent_count (n : Nat) (lines : List Line) :
    (dedentLines n lines).length = lines.length ∧
    ∀ k (h : k < lines.length), (dedentLines n lines)[k]? = some (lines[k].drop n) := by
  refine ⟨by simp [dedentLines], fun k h => ?_⟩
  simp [dedentLines, List.getElem?_map, List.getElem?_eq_getElem h]

example : dedentLines 2 ["    a".toList, " b".toList, [], "\tc d".toList] = ["  a".toList, [], [], " d".toList] := by
  repeat rw [String.toList_ofList]
  decide +kernel

/-- `:dedent:` (flag) — the amount is the minimum indentation of the non-blank lines (0 if there is
none), and what is removed from every line is whitespace only. -/
theorem dedent_flag (isSpace : Char → Bool) (lines : List Line) :
    let n := dedentAmount isSpace .flag lines
    (∀ l ∈ lines, nonBlank isSpace l = true → n ≤ indent isSpace l) ∧
    ((∃ l ∈ lines, nonBlank isSpace l = true) →
        ∃ l ∈ lines, nonBlank isSpace l = true ∧ indent isSpace l = n) ∧
    ((∀ l ∈ lines, nonBlank isSpace l = false) → n = 0) ∧
    (∀ l ∈ lines, (l.take n).all isSpace = true ∧ l = l.take n ++ l.drop n) := by
  simp only [dedentAmount]
  refine ⟨minIndent_le isSpace lines, minIndent_attained isSpace lines, minIndent_none isSpace lines, ?_⟩
  exact fun l hl => ⟨take_minIndent_all_space isSpace lines l hl, (List.take_append_drop _ _).symm⟩

example : dedentAmount (fun c => c == ' ' || c == '\t') .flag ["    a".toList, "  ".toList, "  b".toList, [], "\t\t\tc".toList] = 2 := by
  repeat rw [String.toList_ofList]
  decide +kernel

/-- no `dedent` option: lines unchanged -/
theorem dedent_absent (isSpace : Char → Bool) (lines : List Line) :
    dedentLines (dedentAmount isSpace .absent lines) lines = lines := by
  simp [dedentAmount, dedentLines]

/-! ## joining -/

/-- The code block's text determines the dedented excerpt: splitting it at newlines gives back
exactly the lines (for a non-empty excerpt; the empty excerpt gives the empty text). -/
theorem join_roundtrip (isWord : Char → Bool) (sa eb : Option Line) (n : Nat) (t : List Char) :
    let out := dedentLines n (excerpt isWord sa eb (splitLines t)).1
    (out ≠ [] → splitLines (joinLines out) = out) ∧ (out = [] → joinLines out = []) := by
  intro out
  refine ⟨fun hne => split_join out hne ?_, fun h => by rw [h]; rfl⟩
  intro l hl hc
  obtain ⟨l0, hl0, rfl⟩ := List.mem_map.mp hl
  rw [excerpt_bounds] at hl0
  exact splitLines_no_nl t l0 (List.mem_of_mem_take (List.mem_of_mem_drop hl0)) (List.mem_of_mem_drop hc)

example : splitLines (joinLines (dedentLines 1
    (excerpt (fun c => c.isAlphanum) (some "S".toList) none (splitLines "# S\n a\n\n b\n".toList)).1))
      = ["a".toList, [], "b".toList, []] := by
  repeat rw [String.toList_ofList]
  decide +kernel

/-- A file has one more line than it has newline characters (`len(text.split("\n"))`): this is the
"file length" emphasize-lines is validated against. -/
theorem file_length (t : List Char) : (splitLines t).length = t.count '\n' + 1 :=
  splitLines_length t

example : (splitLines "a\nb\n".toList).length = 3 := by
  rw [String.toList_ofList]
  decide +kernel

/-- Without markers and dedent the text of the code block is the file's text, character for
character (CR, trailing newline, … included). -/
theorem whole_file_verbatim (isWord : Char → Bool) (t : List Char) :
    joinLines (dedentLines 0 (excerpt isWord none none (splitLines t)).1) = t := by
  rw [excerpt_whole]
  simp [dedentLines, join_split]

/-! ## emphasize-lines -/

/-- An accepted specification only names ranges `0 ≤ lo ≤ hi ≤ maxVal`. -/
theorem linenos_valid (isSpace : Char → Bool) (term : List Char) (maxVal : Nat) (ps : List (Int × Int))
    (h : parseLinenos isSpace term maxVal = .ok ps) :
    ∀ p ∈ ps, 0 ≤ p.1 ∧ p.1 ≤ p.2 ∧ p.2 ≤ (maxVal : Int) := by
  unfold parseLinenos at h
  split at h
  · injection h with h; subst h; simp
  · exact parseTerms_ok isSpace maxVal _ ps h

/-- A term naming a line beyond `maxVal` is rejected … -/
theorem linenos_term_too_large (isSpace : Char → Bool) (maxVal : Nat) (t : List Char) (lo hi : Int)
    (hlo : parseInt isSpace (splitDash1 t).1 = some lo)
    (hhi : ((splitDash1 t).2 = none ∧ hi = lo) ∨
           (∃ p, (splitDash1 t).2 = some p ∧ parseInt isSpace p = some hi))
    (h0 : 0 ≤ lo ∧ 0 ≤ hi) (hbig : lo > (maxVal : Int) ∨ hi > (maxVal : Int)) :
    parseTerm isSpace maxVal t = .error .tooLarge := by
  have hneg : ¬ (lo < 0 ∨ hi < 0) := by omega
  rcases hhi with ⟨h2, rfl⟩ | ⟨p, h2, hp⟩
  · simp only [parseTerm, hlo, h2, if_neg hneg, if_pos hbig]
  · simp only [parseTerm, hlo, h2, hp, if_neg hneg, if_pos hbig]

example : parseTerm (fun c => c == ' ') 7 "2-9".toList = .error .tooLarge := by
  rw [String.toList_ofList]
  exact linenos_term_too_large _ 7 _ 2 9 (by decide +kernel) (Or.inr ⟨['9'], by decide +kernel, by decide +kernel⟩) (by decide) (by decide)

/-- … and one rejected term makes the whole specification fail. -/
theorem linenos_rejects (isSpace : Char → Bool) (term : List Char) (maxVal : Nat) (t : List Char) (e : LnErr)
    (hne : (strip isSpace term).isEmpty = false)
    (ht : t ∈ splitOn ',' (strip isSpace term)) (he : parseTerm isSpace maxVal t = .error e) :
    ∃ e', parseLinenos isSpace term maxVal = .error e' := by
  rw [parseLinenos, hne, if_neg Bool.false_ne_true]
  exact parseTerms_error_of_mem isSpace maxVal _ t ht e he

example : parseLinenos (fun c => c == ' ') "1-2, 7".toList 7 = .ok [(1, 2), (7, 7)] := by decide +kernel
example : parseLinenos (fun c => c == ' ') "1-2,8".toList 7 = .error .tooLarge := by decide +kernel
example : parseLinenos (fun c => c == ' ') "3-1".toList 7 = .error .reversed := by decide +kernel
example : parseLinenos (fun c => c == ' ') "1,,2".toList 7 = .error .badInt := by decide +kernel

/-! ## the handler -/

/-- For a readable file the handler always produces a code block; it carries the requested
language, caption, copyable, linenos, lineno-start and source settings, its text is the joined
dedented excerpt, the emphasis is validated against the length of the *file*, the dependency is
recorded with its hash, and the diagnostics are those of the marker search plus at most the
emphasize-lines one. -/
theorem options_carried (isWord isSpace : Char → Bool) (name : DirName) (o : Options) (t : List Char) :
    let r := literalInclude isWord isSpace name true o (.text t)
    let ex := (excerpt isWord o.startAfter o.endBefore (splitLines t)).1
    ∃ c, r.code = some c ∧
      c.lang = some (o.language.getD "") ∧ c.caption = o.caption ∧
      c.copyable = (o.copyable.getD true) ∧ c.linenos = o.linenos ∧
      c.linenoStart = o.linenoStart ∧ c.source = o.source ∧
      c.value = joinLines (dedentLines (dedentAmount isSpace o.dedent ex) ex) ∧
      c.emphasize = (match o.emphasize with
        | none => none
        | some term => match parseLinenos isSpace term (splitLines t).length with
          | .ok ps => some ps
          | .error _ => none) ∧
      r.dep = Dep.hashed ∧ Diag.cannotOpen ∉ r.diags := by
  intro r ex
  have hno : Diag.cannotOpen ∉ (excerpt isWord o.startAfter o.endBefore (splitLines t)).2 :=
    fun h => by rcases excerpt_diag_kinds _ _ _ _ _ h with h | h | h <;> cases h
  refine ⟨_, rfl, rfl, rfl, ?_, rfl, rfl, rfl, rfl, ?_, rfl, ?_⟩
  · cases o.copyable <;> rfl
  · cases o.emphasize with
    | none => rfl
    | some term => simp only []; cases parseLinenos isSpace term (splitLines t).length <;> rfl
  · show _ ∉ _ ++ _
    cases o.emphasize with
    | none => simpa using hno
    | some term => simp only []; cases parseLinenos isSpace term (splitLines t).length <;> simpa using hno

/-- Emphasised lines outside the file (or any other malformed specification) are reported; the code
block is still produced, without emphasis. -/
theorem emphasize_reported (isWord isSpace : Char → Bool) (name : DirName) (o : Options) (t : List Char)
    (term : List Char) (e : LnErr) (ho : o.emphasize = some term)
    (hp : parseLinenos isSpace term (splitLines t).length = .error e) :
    let r := literalInclude isWord isSpace name true o (.text t)
    Diag.emphasize ∈ r.diags ∧ ∃ c, r.code = some c ∧ c.emphasize = none := by
  simp only [literalInclude, ho, hp]
  exact ⟨by simp, _, rfl, rfl⟩

example :
    let r := literalInclude (fun c => c.isAlphanum) (fun c => c == ' ') .literalinclude true
      { endBefore := some "E".toList, emphasize := some "5".toList } (.text "a\n# E\nb\nc".toList)
    r.diags = [Diag.emphasize] ∧ r.code.map (·.value) = some "a".toList := by
  repeat rw [String.toList_ofList]
  decide +kernel

/-- A specification inside the file is accepted whatever the markers select, and never reported. -/
theorem emphasize_file_length (isWord isSpace : Char → Bool) (name : DirName) (o : Options) (t : List Char)
    (term : List Char) (ps : List (Int × Int)) (ho : o.emphasize = some term)
    (hp : parseLinenos isSpace term (splitLines t).length = .ok ps) :
    let r := literalInclude isWord isSpace name true o (.text t)
    Diag.emphasize ∉ r.diags ∧ ∃ c, r.code = some c ∧ c.emphasize = some ps := by
  have hno : Diag.emphasize ∉ (excerpt isWord o.startAfter o.endBefore (splitLines t)).2 :=
    fun h => by rcases excerpt_diag_kinds _ _ _ _ _ h with h | h | h <;> cases h
  simp only [literalInclude, ho, hp]
  exact ⟨by simp [hno], _, rfl, rfl⟩

example :
    (literalInclude (fun c => c.isAlphanum) (fun c => c == ' ') .literalinclude true
      { startAfter := some "S".toList, emphasize := some "4".toList } (.text "a\n# S\nb\nc".toList)).code.map (·.emphasize)
      = some (some [(4, 4)]) := by
  repeat rw [String.toList_ofList]
  decide +kernel

/-- A missing file / directory / undecodable file is reported as `CannotOpenFile`, no code block is
produced, and the dependency is recorded (without hash if the bytes could not be read). -/
theorem unreadable_reported (isWord isSpace : Char → Bool) (name : DirName) (o : Options) :
    literalInclude isWord isSpace name true o .osError =
      { code := none, diags := [Diag.cannotOpen], dep := Dep.noneRecorded } ∧
    literalInclude isWord isSpace name true o .undecodable =
      { code := none, diags := [Diag.cannotOpen], dep := Dep.hashed } := by
  simp [literalInclude]

/-- No argument: `literalinclude` reports `ExpectedPathArg`; `input`/`output` are left alone
(their content is raw code). Nothing is read. -/
theorem missing_argument (isWord isSpace : Char → Bool) (name : DirName) (o : Options) (f : FileState) :
    literalInclude isWord isSpace name false o f =
      { code := none, diags := if name = .literalinclude then [Diag.expectedPathArg] else [], dep := Dep.unset } := by
  simp [literalInclude]

/-- io-code-block: the child's language and the parent's caption / copyable / source are what the
code block carries; text, emphasis and line-number settings are untouched. -/
theorem io_options_carried (p : ParentOpts) (lang : Option String) (c : Code) :
    let c' := ioAdjust p lang c
    c'.lang = lang ∧ c'.caption = p.caption ∧ c'.source = p.source ∧
    (c'.copyable = true ↔ p.copyable = some true) ∧
    c'.value = c.value ∧ c'.emphasize = c.emphasize ∧ c'.linenos = c.linenos ∧ c'.linenoStart = c.linenoStart := by
  intro c'
  refine ⟨rfl, rfl, rfl, ?_, rfl, rfl, rfl, rfl⟩
  simp only [c', ioAdjust]
  cases p.copyable with
  | none => simp
  | some b => cases b <;> simp

end SnootyVerif.C20
