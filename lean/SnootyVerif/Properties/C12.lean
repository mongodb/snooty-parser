import SnootyVerif.Proofs.Project

/-!
# C12 — Incremental updates converge to the clean-build result

Property theorems about `Model/Project.lean` (the open project of `snooty/parser.py` `_Project` +
`snooty/page_database.py` `PageDatabase`: environment, parsed-page store, cached postprocessor result, dirty
mark, asset dependency graph). Helper lemmas: `Proofs/Project.lean`.

The parser is abstract (`Parser`, with the footprint law as a field). `converge` is a *reduction*: it
turns convergence of every edit history into the per-operation obligation `CoversAll` ("each operation
re-parses every existing source whose footprint contains the touched file, and the touched file itself;
a source that disappeared loses its pages"). `code_converge` discharges that obligation for the re-parse
sets the code computes from its dependency graph, under the hypothesis that every read of a parse is
recorded as a graph edge and that no parse reads *another source file* (`hrec`); the harness checks
`hrec`'s consequences on the implementation (end-to-end differential) and reports the reads that violate
it (existence checks of `:doc:` targets) as known findings. `converge_refuted` is the witness that the
code before the fix (a vanished / shrunk multi-page YAML source keeps its generated pages) did not converge.
`code_converge3` is `code_converge` for the policy that keeps on every edge what its target held, without the
restriction on `hrec`. `converge_shared` carries `converge` over to the operations that also generate the other
sources of a dropped key again; `shared_key_refuted` / `shared_key_restored` are the witnesses for that rule.
-/
namespace SnootyVerif.C12
set_option linter.unusedSectionVars false
open SnootyVerif.Project

variable {Path Key Page Content Result : Type} [DecidableEq Path] [DecidableEq Key]

/-- **Convergence (reduction theorem).** Let every output key belong to one source (`owns`). For every
initial environment, every sequence of operations `update / create / delete / postprocess`, and every
choice of re-parse sets that satisfies the obligation `CoversAll` (hdep), the store of the open project
equals the store a clean open + build computes for the final environment — hence what the next
`postprocess()` delivers (cached or recomputed, for any postprocessor `post`) is the clean-build result. -/
theorem converge (P : Parser Path Key Page Content) (owner : Key → Path) (srcs : List Path)
    (owns : ∀ e p k pg, (k, pg) ∈ P.parse e p → owner k = p)
    (post : Store Path Key Page → Result) (e₀ : Env Path Content)
    (xs : List (Op Path Content × List Path)) (hdep : CoversAll P srcs e₀ xs) :
    let final := run P srcs post (St.init P srcs post e₀) xs
    final.env = envAfter e₀ (xs.map (·.1)) ∧
    final.store = storeOf P srcs (envAfter e₀ (xs.map (·.1))) ∧
    deliver post final = post (storeOf P srcs (envAfter e₀ (xs.map (·.1)))) := by
  intro final
  have h := inv_run owns post xs e₀ _ rfl (inv_init P owner srcs owns post e₀) hdep
  exact h.2.converged owns h.1

/-- **Postprocessing is pure.** `postprocess()` changes neither the environment nor the stored parse results;
what the following `postprocess()` delivers is what this one delivered; doing it twice is doing it once. -/
theorem postprocess_pure (P : Parser Path Key Page Content) (srcs : List Path)
    (post : Store Path Key Page → Result) (st : St Path Key Page Content Result) (R R' : List Path) :
    let st' := step P srcs post st (.postprocess, R)
    st'.store = st.store ∧ st'.env = st.env ∧
    deliver post st' = deliver post st ∧
    step P srcs post st' (.postprocess, R') = st' := by
  cases hd : st.dirty <;> simp [step, deliver, hd]

/-- the cached result is handed out only while nothing was stored since it was computed: after any
mutating operation the next `postprocess()` recomputes from the current store -/
theorem dirty_after_mutation (P : Parser Path Key Page Content) (srcs : List Path)
    (post : Store Path Key Page → Result) (st : St Path Key Page Content Result)
    (op : Op Path Content) (R : List Path) (hop : op.touched ≠ none) :
    deliver post (step P srcs post st (op, R)) = post (step P srcs post st (op, R)).store := by
  cases op with
  | postprocess => exact absurd rfl hop
  | _ => rfl

theorem chosen_covers {P : Parser Path Key Page Content} {srcs : List Path}
    {recorded : Env Path Content → Path → List Path}
    (hrec : ∀ e s q, s ∈ srcs → (e s).isSome = true → q ∈ P.reads e s → q ≠ s → (q ∉ srcs ∧ q ∈ recorded e s))
    {e : Env Path Content} {graph : Path → List Path}
    (hg : ∀ s ∈ srcs, (e s).isSome = true → graph s = recorded e s)
    {op : Op Path Content} {q : Path} (hq : op.touched = some q) :
    Covers P srcs e op (chosen srcs graph q) := by
  refine .of_touched hq fun s hs hor => ?_
  unfold chosen
  by_cases hsq : s = q
  · rw [← hsq, if_pos hs]; exact List.mem_singleton_self s
  · obtain ⟨hex, hread⟩ := hor.resolve_left hsq
    have hr := hrec e s q hs hex hread (Ne.symm hsq)
    rw [if_neg hr.1, List.mem_filter, hg s hs hex]
    exact ⟨hs, decide_eq_true hr.2⟩

/-- **Convergence of the code's own re-parse policy.** `update(q)` / `delete(q)` re-parse `q` if it is a source
and otherwise the graph predecessors of `q` (`update_asset`). If every file a parse reads besides the source itself
is a non-source file recorded as a graph edge (`hrec`), and the recorded edges obey the footprint law (`hfp`), then
after every operation sequence the store is the clean-build store and the next postprocessing result is the clean one. -/
theorem code_converge (P : Parser Path Key Page Content) (owner : Key → Path) (srcs : List Path)
    (owns : ∀ e p k pg, (k, pg) ∈ P.parse e p → owner k = p)
    (recorded : Env Path Content → Path → List Path)
    (hrec : ∀ e s q, s ∈ srcs → (e s).isSome = true → q ∈ P.reads e s → q ≠ s → (q ∉ srcs ∧ q ∈ recorded e s))
    (hfp : ∀ e e' s, (∀ f ∈ P.reads e s, e f = e' f) → recorded e s = recorded e' s)
    (post : Store Path Key Page → Result) (e₀ : Env Path Content) (ops : List (Op Path Content)) :
    let final := codeRun P recorded srcs post (CodeSt.init P recorded srcs post e₀) ops
    final.env = envAfter e₀ ops ∧
    final.store = storeOf P srcs (envAfter e₀ ops) ∧
    deliver post final.toSt = post (storeOf P srcs (envAfter e₀ ops)) := by
  refine CodeInv.run owns CodeSt.toSt CodeSt.graph (codeStep P recorded srcs post) (codeRun P recorded srcs post)
    (fun _ => rfl) (fun _ _ _ => rfl) (fun st op hi => ?_) ops e₀ _ rfl (codeInv_init owns recorded post e₀)
  cases ht : op.touched with
  | none =>
    simp only [codeStep, ht]
    exact hi.step owns hfp (.of_untouched ht) fun _ => (if_neg List.not_mem_nil).symm
  | some q =>
    simp only [codeStep, ht]
    exact hi.step owns hfp (chosen_covers hrec hi.2 ht).unseen fun _ => rfl

theorem chosen3_covers [DecidableEq Content] {P : Parser Path Key Page Content} {srcs : List Path}
    {recorded : Env Path Content → Path → List (Path × Option Content)}
    (hrec : ∀ e s q, s ∈ srcs → (e s).isSome = true → q ∈ P.reads e s → q ≠ s → (q, e q) ∈ recorded e s)
    {e : Env Path Content} {graph : Path → List (Path × Option Content)}
    (hg : ∀ s ∈ srcs, (e s).isSome = true → graph s = recorded e s)
    {op : Op Path Content} {q : Path} (hq : op.touched = some q) :
    CoversCh P srcs e op (chosen3 srcs graph e op q) := by
  refine .of_touched hq fun s hs hor => ?_
  unfold chosen3
  by_cases hsq : s = q
  · rw [← hsq, if_pos hs]; exact List.mem_append_left _ (List.mem_singleton_self s)
  · obtain ⟨hex, hread, hch⟩ := hor.resolve_left hsq
    have hmem : (q, e q) ∈ graph s := hg s hs hex ▸ hrec e s q hs hex hread (Ne.symm hsq)
    refine List.mem_append_right _ (List.mem_filter.2 ⟨hs, ?_⟩)
    simp only [Bool.and_eq_true, decide_eq_true_eq, List.any_eq_true, Bool.or_eq_true]
    exact ⟨hsq, (q, e q), hmem, rfl, .inr (Ne.symm hch)⟩

/-- **Convergence of the code's re-parse policy when sources read other sources.** `update(q)` re-parses `q` and every
source that read `q` when it held something else than it holds now; create / delete / a non-source file re-parse every
source with an edge to `q`. If every file a parse reads besides the source itself is recorded as an edge together with
what it held (`hrec` - no longer restricted to non-source files), and the recorded edges obey the footprint law (`hfp`),
then after every operation sequence the store is the clean-build store and the next postprocessing result is the clean
one. (The environment is the one the parser reads through: for a file that other pages read, its state on disk.) -/
theorem code_converge3 [DecidableEq Content] (P : Parser Path Key Page Content) (owner : Key → Path) (srcs : List Path)
    (owns : ∀ e p k pg, (k, pg) ∈ P.parse e p → owner k = p)
    (recorded : Env Path Content → Path → List (Path × Option Content))
    (hrec : ∀ e s q, s ∈ srcs → (e s).isSome = true → q ∈ P.reads e s → q ≠ s → (q, e q) ∈ recorded e s)
    (hfp : ∀ e e' s, (∀ f ∈ P.reads e s, e f = e' f) → recorded e s = recorded e' s)
    (post : Store Path Key Page → Result) (e₀ : Env Path Content) (ops : List (Op Path Content)) :
    let final := codeRun3 P recorded srcs post (CodeSt3.init P recorded srcs post e₀) ops
    final.env = envAfter e₀ ops ∧
    final.store = storeOf P srcs (envAfter e₀ ops) ∧
    deliver post final.toSt = post (storeOf P srcs (envAfter e₀ ops)) := by
  refine CodeInv.run owns CodeSt3.toSt CodeSt3.graph (codeStep3 P recorded srcs post) (codeRun3 P recorded srcs post)
    (fun _ => rfl) (fun _ _ _ => rfl) (fun st op hi => ?_) ops e₀ _ rfl (codeInv_init owns recorded post e₀)
  cases ht : op.touched with
  | none =>
    simp only [codeStep3, ht]
    exact hi.step owns hfp (.of_untouched ht) fun _ => (if_neg List.not_mem_nil).symm
  | some q =>
    simp only [codeStep3, ht]
    exact hi.step owns hfp (chosen3_covers hrec hi.2 ht).unseen fun _ => rfl

/-! ### non-vacuity of `code_converge3`: page `0` shows source `1` verbatim -/

def lit3Parse (e : Env Nat Nat) (p : Nat) : List (Nat × Nat) :=
  if p = 0 then [(100, (e 0).getD 0 + 1000 * (e 1).getD 7)] else if p = 1 then [(101, (e 1).getD 0)] else []

def lit3 : Parser Nat Nat Nat Nat :=
  { parse := lit3Parse,
    reads := fun _ p => if p = 0 then [0, 1] else [p],
    footprint := by
      intro e e' p h
      unfold lit3Parse
      by_cases h0 : p = 0
      · subst h0
        have a := h 0 (by simp)
        have b := h 1 (by simp)
        simp [a, b]
      · by_cases h1 : p = 1
        · subst h1
          have b := h 1 (by simp)
          simp [b]
        · simp [h0, h1] }

def lit3Recorded (e : Env Nat Nat) (p : Nat) : List (Nat × Option Nat) := if p = 0 then [(1, e 1)] else []

/-- the hypotheses of `code_converge3` hold for a project in which one SOURCE reads another (excluded by `code_converge`):
for every history the open project delivers the clean build -/
example (post : Store Nat Nat Nat → Nat) (e₀ : Env Nat Nat) (ops : List (Op Nat Nat)) :
    let final := codeRun3 lit3 lit3Recorded [0, 1] post (CodeSt3.init lit3 lit3Recorded [0, 1] post e₀) ops
    final.store = storeOf lit3 [0, 1] (envAfter e₀ ops) ∧
    deliver post final.toSt = post (storeOf lit3 [0, 1] (envAfter e₀ ops)) := by
  have h := code_converge3 lit3 (fun k => if k = 100 then 0 else 1) [0, 1]
    (by
      intro e p k pg hm
      simp only [lit3, lit3Parse] at hm
      by_cases h0 : p = 0
      · subst h0; simp at hm; simp [hm.1]
      · by_cases h1 : p = 1
        · subst h1; simp at hm; simp [hm.1]
        · simp [h0, h1] at hm)
    lit3Recorded
    (by
      intro e s q hs _ hq hne
      simp only [lit3] at hq
      by_cases h0 : s = 0
      · subst h0
        simp at hq
        rcases hq with hq | hq
        · exact absurd hq hne
        · subst hq; simp [lit3Recorded]
      · simp [h0] at hq
        exact absurd hq hne)
    (by
      intro e e' s h
      unfold lit3Recorded
      by_cases h0 : s = 0
      · subst h0
        have b := h 1 (by simp [lit3])
        simp [b]
      · simp [h0])
    post e₀ ops
  exact ⟨h.2.1, h.2.2⟩

/-- ... and the history the repair is about: the shown file changes, the page that shows it is re-parsed -/
example :
    (chosen3 [0, 1] (fun s => lit3Recorded (fun p => if p ≤ 1 then some 5 else none) s)
      (fun p => if p ≤ 1 then some 5 else none) (Op.update 1 6) 1) = [1, 0] ∧
    (chosen3 [0, 1] (fun s => lit3Recorded (fun p => if p ≤ 1 then some 5 else none) s)
      (fun p => if p ≤ 1 then some 5 else none) (Op.update 1 5) 1) = [1] := by
  constructor <;> decide +kernel

/-! ## A concrete project (non-vacuity and refutation witnesses)

paths: `0` = `index.txt` (a page that literal-includes file `2`), `1` = `includes/extracts-a.yaml` (one generated
page per entry), `2` = `code/sample.py` (not a source). Contents are lists of numbers; the page of `index.txt` has key
`100`, the page generated for entry `r` has key `200 + r`. -/

def toyParse (e : Env Nat (List Nat)) (p : Nat) : List (Nat × Nat) :=
  match p with
  | 0 => match e 0 with
    | some c => [(100, c.sum + (match e 2 with | some d => d.sum + 1 | none => 0))]
    | none => []
  | 1 => match e 1 with
    | some c => c.map (fun r => (200 + r, r))
    | none => []
  | _ => []

def toyReads (_ : Env Nat (List Nat)) (p : Nat) : List Nat :=
  match p with
  | 0 => [0, 2]
  | 1 => [1]
  | _ => []

def toy : Parser Nat Nat Nat (List Nat) :=
  { parse := toyParse, reads := toyReads,
    footprint := by
      intro e e' p h
      match p with
      | 0 =>
        have h0 := h 0 (by simp [toyReads])
        have h2 := h 2 (by simp [toyReads])
        simp [toyParse, h0, h2]
      | 1 =>
        have h1 := h 1 (by simp [toyReads])
        simp [toyParse, h1]
      | (n + 2) => simp [toyParse] }

def toyOwner (k : Nat) : Nat := if k = 100 then 0 else 1

theorem toy_owns : ∀ e p k pg, (k, pg) ∈ toy.parse e p → toyOwner k = p := by
  intro e p k pg h
  simp only [toy, toyParse] at h
  split at h
  · split at h
    · cases List.mem_singleton.1 h; rfl
    · cases h
  · split at h
    · obtain ⟨r, _, hr⟩ := List.mem_map.1 h
      cases hr
      exact if_neg (by omega)
    · cases h
  · cases h

/-- a postprocessor for the examples: it looks at four keys -/
def toyPost (s : Store Nat Nat Nat) : Option (Nat × Nat) × Option (Nat × Nat) × Option (Nat × Nat) × Option (Nat × Nat) :=
  (s 100, s 204, s 205, s 206)

def toyEnv : Env Nat (List Nat) := fun p =>
  match p with
  | 0 => some [1]
  | 1 => some [5, 6]
  | 2 => some [7]
  | _ => none

/-- what the code records as graph edges: the literal-included file -/
def toyRecorded (_ : Env Nat (List Nat)) (p : Nat) : List Nat :=
  match p with
  | 0 => [2]
  | _ => []

/-- a history touching everything: edit the included file, drop a YAML entry, delete the YAML file, re-create it,
delete the included file -/
def toyOps : List (Op Nat (List Nat)) :=
  [.update 2 [9], .postprocess, .update 1 [6], .update 0 [3], .delete 1, .postprocess, .create 1 [4], .delete 2]

/-- non-vacuity of `code_converge`: its hypotheses hold for the toy project … -/
example : let final := codeRun toy toyRecorded [0, 1] toyPost (CodeSt.init toy toyRecorded [0, 1] toyPost toyEnv) toyOps
    final.store = storeOf toy [0, 1] (envAfter toyEnv toyOps) :=
  (code_converge toy toyOwner [0, 1] toy_owns toyRecorded
    (by
      intro e s q hs _ hq hne
      simp at hs
      cases hs with
      | inl h =>
        subst h
        simp [toy, toyReads] at hq
        cases hq with
        | inl h => exact absurd h hne
        | inr h => subst h; simp [toyRecorded]
      | inr h =>
        subst h
        simp [toy, toyReads] at hq
        exact absurd hq hne)
    (by intro e e' s _; rfl)
    toyPost toyEnv toyOps).2.1

/-- … and the run is not trivial: the page of `index.txt` reflects both its own edit and the deleted include, the YAML
page of the dropped entries are gone, the re-created file's entry is present -/
def toyFinal : CodeSt Nat Nat Nat (List Nat) (Option (Nat × Nat) × Option (Nat × Nat) × Option (Nat × Nat) × Option (Nat × Nat)) :=
  codeRun toy toyRecorded [0, 1] toyPost (CodeSt.init toy toyRecorded [0, 1] toyPost toyEnv) toyOps

example : toyFinal.store 100 = some (3, 0) ∧ toyFinal.store 204 = some (4, 1) ∧ toyFinal.store 205 = none ∧
    toyFinal.store 206 = none ∧ deliver toyPost toyFinal.toSt = (some (3, 0), some (4, 1), none, none) := by decide +kernel

/-- non-vacuity of `converge`: explicit re-parse sets satisfying the obligation -/
example : CoversAll toy [0, 1] toyEnv [(.update 2 [9], [0]), (.delete 1, [1]), (.postprocess, [])] :=
  ⟨.of_touched rfl (by decide +kernel), .of_touched rfl (by decide +kernel), (fun _ _ _ hq => nomatch hq), trivial⟩

/-- **The code before the fix did not converge** (defect D13 and its sibling): with exactly the re-parse sets the
obligation asks for, (a) deleting the YAML file leaves its generated pages in the store, (b) updating it to fewer
entries leaves the page of the dropped entry. -/
theorem converge_refuted :
    (CoversAll toy [0, 1] toyEnv [(.delete 1, [1])] ∧
      (runAsWritten toy [0, 1] (fun p => p == 0) (toyEnv, storeOf toy [0, 1] toyEnv) [(.delete 1, [1])]).2
        ≠ storeOf toy [0, 1] (envAfter toyEnv [.delete 1])) ∧
    (CoversAll toy [0, 1] toyEnv [(.update 1 [6], [1])] ∧
      (runAsWritten toy [0, 1] (fun p => p == 0) (toyEnv, storeOf toy [0, 1] toyEnv) [(.update 1 [6], [1])]).2
        ≠ storeOf toy [0, 1] (envAfter toyEnv [.update 1 [6]])) := by
  refine ⟨⟨⟨.of_touched rfl (by decide +kernel), trivial⟩, fun h => ?_⟩,
    ⟨⟨.of_touched rfl (by decide +kernel), trivial⟩, fun h => ?_⟩⟩ <;>
    exact absurd (congrFun h 205) (by decide +kernel)

/-- the same histories converge under the fixed operations (`refresh` drops what the source no longer yields) -/
example : (run toy [0, 1] toyPost (St.init toy [0, 1] toyPost toyEnv) [(.delete 1, [1])]).store 205 = none ∧
    (run toy [0, 1] toyPost (St.init toy [0, 1] toyPost toyEnv) [(.update 1 [6], [1])]).store 205 = none ∧
    (run toy [0, 1] toyPost (St.init toy [0, 1] toyPost toyEnv) [(.update 1 [6], [1])]).store 206 = some (6, 1) := by decide +kernel

/-- **An unrecorded read breaks convergence** (the obligation `hrec` is necessary): if the parse of `index.txt` reads
file `2` but no edge is recorded for it, `update(2)` re-parses nothing and the stored page stays stale. This is the
shape of the remaining known finding (existence checks of `:doc:` targets are reads without a recorded edge). -/
theorem unrecorded_read_refuted :
    (codeRun toy (fun _ _ => []) [0, 1] toyPost (CodeSt.init toy (fun _ _ => []) [0, 1] toyPost toyEnv) [.update 2 [9]]).store
      ≠ storeOf toy [0, 1] (envAfter toyEnv [.update 2 [9]]) :=
  fun h => absurd (congrFun h 100) (by decide +kernel)

/-! ## Layer 4: two sources which yield one output key (fix 70b888c)

`converge` asks that every key has one owner in *every* environment. A history may leave that space for a while (an
entry pasted into a second YAML file before it is cut from the first) - what is stored under the shared key then is the
page generated last, and nothing is claimed about it. What the code owes is that the page is still there, from the
remaining file, once the key has one owner again. -/

/-- **The rule added by the fix is conservative**: on projects in which every key has one owner, the operations that
generate the other sources of a dropped key again (`runShared`) are the operations of `converge` (`run`), so the open
project still converges to the clean build. -/
theorem converge_shared (P : Parser Path Key Page Content) (owner : Key → Path) (srcs : List Path) (keys : List Key)
    (owns : ∀ e p k pg, (k, pg) ∈ P.parse e p → owner k = p)
    (post : Store Path Key Page → Result) (e₀ : Env Path Content)
    (xs : List (Op Path Content × List Path)) (hdep : CoversAll P srcs e₀ xs) :
    let final := runShared P srcs keys post (St.init P srcs post e₀) xs
    final.env = envAfter e₀ (xs.map (·.1)) ∧
    final.store = storeOf P srcs (envAfter e₀ (xs.map (·.1))) ∧
    deliver post final = post (storeOf P srcs (envAfter e₀ (xs.map (·.1)))) := by
  intro final
  have heq : final = run P srcs post (St.init P srcs post e₀) xs :=
    runShared_eq_run owns keys post xs (St.init P srcs post e₀) (inv_init P owner srcs owns post e₀) hdep
  rw [heq]
  exact converge P owner srcs owns post e₀ xs hdep

/-- two extracts files: every number in the content of file `p` is an entry, entry `r` yields the page `200 + r`;
the page says which file it came from -/
def twin : Parser Nat Nat Nat (List Nat) :=
  { parse := fun e p => match e p with
      | some c => if p = 1 ∨ p = 2 then c.map (fun r => (200 + r, 10 * p + r)) else []
      | none => [],
    reads := fun _ p => [p],
    footprint := by
      intro e e' p h
      have hp := h p (by simp)
      simp only [hp] }

/-- file 1 defines `foo` (0) and `bar` (1), file 2 defines `qux` (2) -/
def twinEnv : Env Nat (List Nat) := fun p =>
  match p with
  | 1 => some [0, 1]
  | 2 => some [2]
  | _ => none

def twinPost (s : Store Nat Nat Nat) : Option (Nat × Nat) × Option (Nat × Nat) × Option (Nat × Nat) :=
  (s 200, s 201, s 202)

/-- `foo` is pasted into file 2, then file 2 is deleted / the paste is undone: each operation re-parses the touched file -/
def twinDelete : List (Op Nat (List Nat) × List Nat) := [(.update 2 [2, 0], [2]), (.delete 2, [2])]
def twinUndo : List (Op Nat (List Nat) × List Nat) := [(.update 2 [2, 0], [2]), (.update 2 [2], [2])]

/-- **The code before the fix lost the page** (corpus cases 009 and 010): with the re-parse sets the obligation asks
for, after the second file let go of `foo` the store holds no page 200 although a clean build of the final contents
has the one from file 1 - both final environments give every key one owner. -/
theorem shared_key_refuted :
    (CoversAll twin [1, 2] twinEnv twinDelete ∧
      (run twin [1, 2] twinPost (St.init twin [1, 2] twinPost twinEnv) twinDelete).store 200 = none ∧
      storeOf twin [1, 2] (envAfter twinEnv (twinDelete.map (·.1))) 200 = some (10, 1)) ∧
    (CoversAll twin [1, 2] twinEnv twinUndo ∧
      (run twin [1, 2] twinPost (St.init twin [1, 2] twinPost twinEnv) twinUndo).store 200 = none ∧
      storeOf twin [1, 2] (envAfter twinEnv (twinUndo.map (·.1))) 200 = some (10, 1)) := by
  have hcov : ∀ (e : Env Nat (List Nat)) (op : Op Nat (List Nat)), op.touched = some 2 → Covers twin [1, 2] e op [2] :=
    -- `twin.reads e s` is `[s]`
    fun e op hop => .of_touched hop fun s _ hor => List.mem_singleton.2 (hor.elim id fun h => (List.mem_singleton.1 h.2).symm)
  refine ⟨⟨⟨hcov _ _ rfl, hcov _ _ rfl, trivial⟩, ?_, ?_⟩, ⟨⟨hcov _ _ rfl, hcov _ _ rfl, trivial⟩, ?_, ?_⟩⟩ <;> decide +kernel

/-- **With the rule of the fix the page is there again**, on every key of the two files, and what the next
postprocessing run delivers is what a clean build of the final contents delivers. -/
theorem shared_key_restored :
    (∀ k ∈ [200, 201, 202, 203],
      (runShared twin [1, 2] [200, 201, 202, 203] twinPost (St.init twin [1, 2] twinPost twinEnv) twinDelete).store k =
        storeOf twin [1, 2] (envAfter twinEnv (twinDelete.map (·.1))) k) ∧
    (∀ k ∈ [200, 201, 202, 203],
      (runShared twin [1, 2] [200, 201, 202, 203] twinPost (St.init twin [1, 2] twinPost twinEnv) twinUndo).store k =
        storeOf twin [1, 2] (envAfter twinEnv (twinUndo.map (·.1))) k) ∧
    deliver twinPost (runShared twin [1, 2] [200, 201, 202, 203] twinPost (St.init twin [1, 2] twinPost twinEnv) twinDelete) =
      twinPost (storeOf twin [1, 2] (envAfter twinEnv (twinDelete.map (·.1)))) ∧
    deliver twinPost (runShared twin [1, 2] [200, 201, 202, 203] twinPost (St.init twin [1, 2] twinPost twinEnv) twinUndo) =
      twinPost (storeOf twin [1, 2] (envAfter twinEnv (twinUndo.map (·.1)))) := by
  decide +kernel

/-- the witness is not trivial: while both files define `foo` the store holds the page of the file generated last -/
example : (runShared twin [1, 2] [200, 201, 202, 203] twinPost (St.init twin [1, 2] twinPost twinEnv) [(.update 2 [2, 0], [2])]).store 200
    = some (20, 2) := by decide +kernel

end SnootyVerif.C12
