import SnootyVerif.Gen.Schema
import SnootyVerif.Proofs.Schema
import SnootyVerif.Proofs.Visitor
import SnootyVerif.Proofs.Refs
/-!
# C04 — every emitted AST is well-formed and serialisable

`wf s strict bound a`   : the AST `a` (Python objects) is a well-formed instance of a class derived from `bound`
`wfJson s strict bound j`: the same judgement on the serialized document (this is the ORACLE the harness
                          applies to every page the real parser / postprocessor delivers)
`serialize`              : model of `Node.serialize` followed by the JSON/BSON encoder.

The three `serialize_*` theorems hold for every schema table, in particular for the generated
`Gen.schema`; the `schema_*` theorems are `decide`d on `Gen.schema` itself, so every change of the
dataclasses in `n.py` re-checks them.
-/
namespace SnootyVerif.C04
open SnootyVerif.Schema

/-- a well-formed AST serializes: `Node.serialize` does not raise and the result encodes -/
theorem serialize_total (s : Schema) (strict : Bool) (bound : String) (a : Ast)
    (h : wf s strict bound a = true) : ∃ j, serialize a = .ok j :=
  let ⟨j, hj, _⟩ := wf_ser s strict a bound h
  ⟨j, hj⟩

/-- … and the document it serializes to is well-formed (same schema, same strictness, same bound) -/
theorem serialize_wfJson (s : Schema) (strict : Bool) (bound : String) (a : Ast) (j : Json)
    (h : wf s strict bound a = true) (hj : serialize a = .ok j) : wfJson s strict bound j = true := by
  obtain ⟨j', hj', hw⟩ := wf_ser s strict a bound h
  rw [hj] at hj'
  cases hj'
  exact hw

/-- `raise NotImplementedError(field, value)` (n.py:133) happens only if the traversal of `serialize`
meets a value of a type none of its branches knows -/
theorem serialize_raises_only_on_unknown (a : Ast)
    (h : serialize a = .error .NotImplementedError) : hasUnknown a = true :=
  ser_nie a h

/-- whatever `serialize` raises, the AST was not well-formed (contrapositive of totality, any schema) -/
theorem serialize_error_not_wf (s : Schema) (strict : Bool) (bound : String) (a : Ast) (e : PyErr)
    (h : serialize a = .error e) : wf s strict bound a = false := by
  cases hw : wf s strict bound a with
  | false => rfl
  | true =>
    obtain ⟨j, hj⟩ := serialize_total s strict bound a hw
    rw [h] at hj
    cases hj

/-- `type` tags identify the class except for these documented groups
(abstract bases; inline/block substitution reference; the Directive family) -/
theorem schema_tags_distinct_or_documented :
    Gen.schema.sharedTags.map (fun t => (t, (Gen.schema.classes.filter (fun c => c.tag == t)).map (·.name)))
      = [("node", ["Node", "InlineNode"]),
         ("parent", ["InlineParent", "Parent"]),
         ("substitution_reference", ["SubstitutionReference", "BlockSubstitutionReference"]),
         ("directive", ["Directive", "TocTreeDirective", "ComposableDirective", "ComposableContent"])] := by
  decide +kernel

/-- The next three theorems in one evaluation. To compare two strings the kernel turns each literal into its list of
bytes, and it keeps what it has reduced (those bytes, `Gen.schema.find "Node"`, …) only while it checks one declaration:
evaluated together the three share that work. -/
private theorem genSchema_checks :
    Gen.schema.closed = true ∧ Gen.schema.namesOk = true ∧ Gen.schema.renamed = [] := by
  decide +kernel

/-- every child rule and every MRO entry names a class of the table -/
theorem schema_child_rules_closed : Gen.schema.closed = true := genSchema_checks.1

/-- class names distinct; field names distinct per class and different from the keys `serialize`
writes itself (`type`, `position`) — the assumption under which the model appends instead of assigning -/
theorem schema_names_ok : Gen.schema.namesOk = true := genSchema_checks.2.1

/-- every class of the published contract is still there with its published `type` tag -/
theorem schema_tags_pinned : Gen.schema.renamed = [] := genSchema_checks.2.2

def childBound (cls : String) : Option Kind :=
  (Gen.schema.find cls).bind (fun c => c.kindOf "children")

/-- the containment rules of the property are what the dataclasses declare -/
theorem schema_containment_rules :
    -- every class derived from InlineParent holds inline children only
    (Gen.schema.classes.all (fun c => !c.mro.contains "InlineParent" || c.kindOf "children" == some (.nodes "InlineNode"))) = true
    ∧ childBound "Heading" = some (.nodes "InlineNode")
    ∧ childBound "Line" = some (.nodes "InlineNode")
    ∧ childBound "DirectiveArgument" = some (.nodes "InlineNode")
    ∧ childBound "SubstitutionDefinition" = some (.nodes "InlineNode")
    ∧ childBound "ListNode" = some (.nodes "ListNodeItem")
    ∧ childBound "DefinitionList" = some (.nodes "DefinitionListItem")
    ∧ childBound "FieldList" = some (.nodes "Field")
    ∧ childBound "LineBlock" = some (.nodes "Line")
    ∧ (Gen.schema.find "DefinitionListItem").bind (fun c => c.kindOf "term") = some (.nodes "InlineNode")
    ∧ (Gen.schema.find "_DefinitionListTerm").map (·.internal) = some true
    ∧ (Gen.schema.find "RefRole").map (·.oneOf) = some ["fileid", "url"]
    ∧ (Gen.schema.classes.filter (·.internal)).map (·.name) = ["_DefinitionListTerm"] := by
  decide +kernel

/-! ## non-vacuity: concrete ASTs -/

def sp (l : Int) : Val := .tuple (.cons (.int l) .nil)
def vl : List Val → Vals
  | [] => .nil
  | x :: xs => .cons x (vl xs)
def fl : List (String × Val) → Flds
  | [] => .nil
  | (k, v) :: xs => .cons k v (fl xs)
def text (l : Int) (s : String) : Val := .node (.mk "Text" "text" (sp l) (fl [("value", .str s)]))
def refRole (dest : Val) : Val :=
  .node (.mk "RefRole" "ref_role" (sp 3)
    (fl [("children", .list (vl [text 3 "x"])), ("domain", .str "std"), ("name", .str "label"),
         ("target", .str "a"), ("flag", .str ""), ("fileid", dest), ("url", .none)]))
def para (cs : List Val) : Val := .node (.mk "Paragraph" "paragraph" (sp 3) (fl [("children", .list (vl cs))]))
def root (cs : List Val) : Ast :=
  .mk "Root" "root" (sp 0) (fl [("children", .list (vl cs)), ("fileid", .fileid "index.txt"), ("options", .dict .nil)])

/-- heading, paragraph with a resolved ref_role, an enumerated list, a definition list with a term -/
def goodPage : Ast := root [
  .node (.mk "Section" "section" (sp 1) (fl [("children", .list (vl [
    .node (.mk "Heading" "heading" (sp 1) (fl [("children", .list (vl [text 1 "T"])), ("id", .str "t")])),
    para [text 3 "see ", refRole (.tuple (vl [.str "index", .str "std-label-a"]))],
    .node (.mk "ListNode" "list" (sp 5) (fl [
      ("children", .list (vl [.node (.mk "ListNodeItem" "listItem" (sp 5) (fl [("children", .list (vl [para [text 5 "i"]]))]))])),
      ("enumtype", .enum "arabic"), ("startat", .int 3)])),
    .node (.mk "DefinitionList" "definitionList" (sp 7) (fl [("children", .list (vl [
      .node (.mk "DefinitionListItem" "definitionListItem" (sp 7)
        (fl [("children", .list (vl [para [text 8 "d"]])), ("term", .list (vl [text 7 "term"]))]))]))]))
  ]))]))]

private theorem goodPage_wf : wf Gen.schema true "Root" goodPage = true := by decide +kernel
example : wf Gen.schema true "Root" goodPage = true := goodPage_wf
example : (match serialize goodPage with | .ok j => wfJson Gen.schema true "Root" j | .error _ => false) = true := by
  obtain ⟨j, hj, hw⟩ := wf_ser Gen.schema true goodPage "Root" goodPage_wf
  rw [hj]
  exact hw

/-- an unresolved ref_role: accepted after parse alone, rejected in postprocessed output -/
def unresolvedPage : Ast := root [para [refRole .none]]
private theorem unresolvedPage_wf : wf Gen.schema false "Root" unresolvedPage = true := by decide +kernel
example : wf Gen.schema false "Root" unresolvedPage = true := unresolvedPage_wf
example : wf Gen.schema true "Root" unresolvedPage = false := by decide +kernel
example : (match serialize unresolvedPage with | .ok j => wfJson Gen.schema false "Root" j | .error _ => false) = true := by
  obtain ⟨j, hj, hw⟩ := wf_ser Gen.schema false unresolvedPage "Root" unresolvedPage_wf
  rw [hj]
  exact hw
example : (match serialize unresolvedPage with | .ok j => wfJson Gen.schema true "Root" j | .error _ => true) = false := by
  decide +kernel

/-- a block node under an inline parent, an escaped bookkeeping node, a list holding a paragraph:
each serializes but is rejected by `wfJson` -/
def blockInInline : Ast := root [para [
  .node (.mk "Emphasis" "emphasis" (sp 1) (fl [("children", .list (vl [para [text 1 "x"]]))]))]]
def escapedTerm : Ast := root [para [
  .node (.mk "_DefinitionListTerm" "definition_list_term" (sp 1) (fl [("children", .list (vl [text 1 "x"]))]))]]
def listOfPara : Ast := root [
  .node (.mk "ListNode" "list" (sp 5) (fl [("children", .list (vl [para [text 5 "i"]])),
    ("enumtype", .enum "unordered"), ("startat", .none)]))]
example : (match serialize blockInInline with | .ok j => wfJson Gen.schema false "Root" j | .error _ => true) = false := by
  decide +kernel
example : (match serialize escapedTerm with | .ok j => wfJson Gen.schema false "Root" j | .error _ => true) = false := by
  decide +kernel
example : (match serialize listOfPara with | .ok j => wfJson Gen.schema false "Root" j | .error _ => true) = false := by
  decide +kernel

/-- a field value of a type `serialize` does not know (a set): NotImplementedError, and `hasUnknown` sees it -/
def withSet : Ast := root [.node (.mk "Code" "code" (sp 1) (fl [
  ("lang", .none), ("caption", .none), ("copyable", .bool true), ("emphasize_lines", .other "set"),
  ("value", .str "x"), ("linenos", .bool false), ("lineno_start", .none), ("source", .none)]))]
example : serialize withSet = .error .NotImplementedError := rfl
example : hasUnknown withSet = true := by decide
example : wf Gen.schema false "Root" withSet = false := serialize_error_not_wf _ _ _ _ .NotImplementedError rfl

/-- a node without a start line: `self.span[0]` raises -/
example : serialize (.mk "Transition" "transition" (.tuple .nil) .nil) = .error .IndexError := rfl
example : serialize (.mk "Transition" "transition" .none .nil) = .error .TypeError := rfl

/-! ## bookkeeping nodes do not escape the visitor

`_DefinitionListTerm` is pushed for a docutils `term` and must be consumed by the departure (its children become
`DefinitionListItem.term`). On the model of the visitor's node stack (`Model/Visitor.lean`, tied to the code by the
path translator and the recorded walks of `./check C01`): whenever terms are handed to definition list items only, the tree
the walk returns contains no node of that kind anywhere — neither among children nor inside a `term` list. -/
section
open SnootyVerif.Visitor

theorem visitor_no_stray_term (id : Nat) (kind : AKind) (cs : List DNode) (hk : kind ≠ .term)
    (hb : balancedL cs = true) (ht : termsOkL kind cs = true) :
    ∃ t, walkDoc (.mk id 1 .normal kind false cs) = .ok t ∧ t.clean = true :=
  ⟨_, walkDoc_spec id kind cs hb ht, spec_clean id kind cs hk ht⟩

/-- a definition list item whose term holds text: the term node itself is gone, its text is in `term` -/
example : (walkDoc (.mk 0 1 .normal .parent false [.mk 1 1 .normal .dlItem false
    [.mk 2 1 .normal .term false [.mk 3 1 .normal .leaf false []], .mk 4 1 .normal .parent false []]])).toOption.map
      (fun t => (t.clean, t.cs.map (fun c => (c.term.map T.id, c.cs.map T.id)))) = some (true, [([3], [4])]) := by decide

end

section RefDestination
open SnootyVerif SnootyVerif.Targets SnootyVerif.Refs

/-- **Every cross-reference role that `RefsHandler` processes either carries a destination or is reported.** For every
target database, every loaded inventory, every reference other than `:doc:` (whose destination is its `fileid`, attached
by `_attach_doc_title`): the node leaves pass 5 with `fileid`+html id or a `url`, or a target-not-found diagnostic was
appended to the page's diagnostics. There is no third outcome (model of `RefsHandler.enter_node`, tied to the code by the
C08 correspondence). -/
theorem refrole_destination (P : Params) (db : Db) (invs : List Inventory) (root : String) (r : Ref) (o : RefOut)
    (hdoc : ¬ (r.domain = stdS ∧ r.role = docS)) (h : resolveRef P db invs root r = .ok o) :
    o.dest ≠ .none ∨ ∃ d ∈ o.diags, d = Diag.notFound r.role r.target := by
  by_cases he : lookup P.isSpace P.lower P.prefixes db invs (mkKey r.domain r.role r.target) = []
  · -- no candidate: reported
    exact .inr ⟨_, by simp [(resolveRef_notfound hdoc he h).2.2], rfl⟩
  · obtain ⟨res, _, _, hd, _⟩ := resolveRef_found hdoc he h
    exact .inl (by rw [hd]; cases res <;> nofun)

end RefDestination

end SnootyVerif.C04
