import SnootyVerif.Proofs.PageDb

/-!
# C13 — The page store is linearizable: no update is lost under concurrency

Every theorem quantifies over **all label sequences** from the initial state, i.e. over every
interleaving (at lock-acquisition / worker-phase granularity) of any number of mutations, requests
and cancellations by any number of threads, and over an arbitrary postprocessor `post`.

`Mode.fixed` describes `page_database.py` with the generation-counter fix, `Mode.asWritten` the
upstream code (`__changed_pages.clear()` at publish time), for which the freshness theorems are
refuted by `asWritten_refuted`.
-/
namespace SnootyVerif.C13
open SnootyVerif.PageDb

variable {R : Type}

/-- the invariant holds initially (both dirty mechanisms) -/
theorem inv_init (m : Mode) (post : Store → R) : Inv m post (init post) := PageDb.inv_init m post

/-- … and is preserved by every enabled transition, whatever thread takes it -/
theorem inv_step {m : Mode} {post : Store → R} {s s' : St R} {l : Label}
    (h : Inv m post s) (hs : step m post s l = some s') : Inv m post s' := PageDb.inv_step h hs

/-- hence it holds after every interleaving -/
theorem inv_reachable {m : Mode} {post : Store → R} {ls : List Label} {s : St R}
    (hr : runFrom m post (init post) ls = some s) : Inv m post s :=
  runFrom_preserves PageDb.inv_step (PageDb.inv_init m post) hr

/-- **Consistent snapshot** (both mechanisms): every result handed to a caller is the postprocessing of
the sorted copy of the store *as it was at one single generation* `g` — never of pages that were not
stored together. -/
theorem consistent_snapshot {m : Mode} {post : Store → R} {ls : List Label} {s : St R} {r g : Nat} {res : R}
    (hr : runFrom m post (init post) ls = some s) (ho : outcome? s r = some (.ok g res)) :
    g ≤ s.gen ∧ ∃ st, s.hist[g]? = some st ∧ res = post (snapshotOf st) := by
  obtain ⟨_, _, _, hv, _⟩ := inv_outcome (inv_reachable hr) ho
  exact hv

/-- the sorted copy holds exactly the stored pages -/
theorem snapshot_perm (st : Store) : (snapshotOf st).Perm st := snapshotOf_perm st

/-- the cache too always holds the postprocessing of one generation -/
theorem cached_consistent {m : Mode} {post : Store → R} {ls : List Label} {s : St R}
    (hr : runFrom m post (init post) ls = some s) :
    s.cachedGen ≤ s.gen ∧ ∃ st, s.hist[s.cachedGen]? = some st ∧ s.cached = post (snapshotOf st) :=
  (inv_reachable hr).cval

/-- **A cancelled run publishes nothing** (both mechanisms), part 1: once a worker has observed the
cancellation token (in the copy loop or in `run`), the only step it can still take is `wRet`, and that
step leaves store, generation, cache, cached generation and dirty set untouched and reports
`cancelled`. -/
theorem cancelled_publishes_nothing {m : Mode} {post : Store → R} {s s' : St R} {l : Label} {r : Nat} {o : Op R}
    (ho : s.ops[r]? = some o) (hw : o.w = .cancelled)
    (hl : l = .wBegin r ∨ l = .wRun r ∨ l = .wPublish r ∨ l = .wRet r)
    (hs : step m post s l = some s') :
    l = .wRet r ∧ s' = setOp s r { o with w := .done .cancelled } ∧
    s'.cached = s.cached ∧ s'.cachedGen = s.cachedGen ∧ s'.changed = s.changed ∧
    s'.store = s.store ∧ s'.gen = s.gen := by
  rcases hl with rfl | rfl | rfl | rfl <;> dsimp only [step] at hs
  -- `wBegin`, `wRun` and `wPublish` are not enabled in phase `cancelled`
  · simp only [ho, hw, reduceCtorEq] at hs
  · simp only [ho, hw, reduceCtorEq] at hs
  · simp only [ho, hw, reduceCtorEq] at hs
  · simp only [ho, hw, Option.some.injEq] at hs
    subst hs
    exact ⟨rfl, rfl, rfl, rfl, rfl, rfl, rfl⟩

/-- part 2: whatever step changes the published result (or its generation) is the `wPublish` step of a
worker that came out of `run` with a result, i.e. that was not cancelled before finishing `run`. -/
theorem only_finished_run_publishes {m : Mode} {post : Store → R} {s s' : St R} {l : Label}
    (hs : step m post s l = some s') (hc : s'.cached ≠ s.cached ∨ s'.cachedGen ≠ s.cachedGen) :
    ∃ r o g res, l = .wPublish r ∧ s.ops[r]? = some o ∧ o.w = .ran g res := by
  cases step_shape hs with
  | publish ho hw => exact ⟨_, _, _, _, rfl, ho, hw⟩
  | _ => exact (hc.elim (· rfl) (· rfl)).elim

/-- **No lost update** (fixed mechanism): a request issued at generation `g₀` that returns a result
returns the postprocessing of a generation `g ≥ g₀`: every update made before the request is in it. -/
theorem no_lost_update {post : Store → R} {ls : List Label} {s : St R} {r g : Nat} {res : R}
    (hr : runFrom .fixed post (init post) ls = some s) (ho : outcome? s r = some (.ok g res)) :
    ∃ o, s.ops[r]? = some o ∧ o.startGen ≤ g := by
  obtain ⟨o, h1, _, _, h4⟩ := inv_outcome (inv_reachable hr) ho
  exact ⟨o, h1, h4 rfl⟩

/-- **Quiescent freshness** (fixed mechanism): if no mutation happened since the request was issued,
the result is the postprocessing of the *current* store. -/
theorem quiescent_fresh {post : Store → R} {ls : List Label} {s : St R} {r g : Nat} {res : R} {o : Op R}
    (hr : runFrom .fixed post (init post) ls = some s) (ho : outcome? s r = some (.ok g res))
    (hop : s.ops[r]? = some o) (hq : s.gen = o.startGen) :
    g = s.gen ∧ res = post (snapshotOf s.store) := by
  have hinv := inv_reachable hr
  obtain ⟨o', h1, _, ⟨hle, st, hst, hres⟩, h4⟩ := inv_outcome hinv ho
  cases hop.symm.trans h1
  have hg : g = s.gen := Nat.le_antisymm hle (hq ▸ h4 rfl)
  subst hg
  cases hinv.cur.symm.trans hst
  exact ⟨rfl, hres⟩

/-! ### the upstream mechanism loses updates (defect D14) -/

/-- one complete request `r` when no worker is alive and the cancel flag plays no role -/
def request (r : Nat) : List Label :=
  [.cEnter r true, .cClear r, .rTrack r, .rStart r, .wBegin r, .wRun r, .wPublish r, .wRet r]

/-- `db[0] = v1; flush (worker copies); db[0] = v2; worker runs, publishes, returns; flush again` -/
def d14Trace : List Label :=
  [.set 0 1, .cEnter 0 true, .cClear 0, .rTrack 0, .rStart 0, .wBegin 0, .set 0 2, .wRun 0, .wPublish 0, .wRet 0,
   .cEnter 1 true, .cClear 1, .rTrack 1, .rStart 1, .wBegin 1, .wRet 1]

/-- **An invalidation is never answered from the cache.** `invalidate()` (something the postprocessor reads besides the pages
has changed: `facets.toml`) makes a new generation of the same pages: in every reachable state, right after it the store is
dirty - whatever result is cached, and whatever a run that is still in flight publishes later (its snapshot belongs to an
older generation, `no_lost_update`) - so the next request recomputes. (Marking only the cached result as stale, without a
new generation, lets an in-flight run that read the old file install its result as current.) -/
theorem invalidate_not_served_from_cache {post : Store → R} {ls : List Label} {s s' : St R}
    (hr : runFrom .fixed post (init post) ls = some s) (hs : step .fixed post s .inv = some s') :
    dirty .fixed s' = true ∧ s'.store = s.store ∧ s'.gen = s.gen + 1 := by
  cases hs
  refine ⟨?_, rfl, rfl⟩
  have hle : s.cachedGen ≤ s.gen := (inv_reachable hr).cval.1
  simp only [dirty, bne_iff_ne, ne_eq]
  omega

/-- concrete facts about the upstream mechanism on `d14Trace` (postprocessor = identity): the second
request, issued at generation 2 with the store quiescent, finds nothing dirty and returns the cached
result of generation 1 — version 1 of page 0 — although the store holds version 2. -/
theorem asWritten_loses_update :
    ∃ s ∈ runFrom .asWritten id (init id) d14Trace, s.store = [(0, 2)] ∧ s.gen = 2 ∧ dirty .asWritten s = false ∧
      outcome? s 1 = some (.ok 1 [(0, 1)]) ∧ ∃ o ∈ s.ops[1]?, o.startGen = 2 := by
  decide +kernel

/-- `no_lost_update` and `quiescent_fresh` are false for the upstream mechanism. -/
theorem asWritten_refuted :
    (¬ ∀ (ls : List Label) (s : St Store) (r g : Nat) (res : Store),
        runFrom .asWritten id (init id) ls = some s → outcome? s r = some (.ok g res) →
        ∃ o, s.ops[r]? = some o ∧ o.startGen ≤ g) ∧
    (¬ ∀ (ls : List Label) (s : St Store) (r g : Nat) (res : Store) (o : Op Store),
        runFrom .asWritten id (init id) ls = some s → outcome? s r = some (.ok g res) →
        s.ops[r]? = some o → s.gen = o.startGen → res = id (snapshotOf s.store)) := by
  obtain ⟨s, hrun, hstore, hgen, -, hout, o, hop, hsg⟩ := asWritten_loses_update
  constructor
  · intro hall
    obtain ⟨o', h1, h2⟩ := hall _ s 1 1 _ hrun hout
    cases hop.symm.trans h1
    omega
  · intro hall
    have := hall _ s 1 1 _ o hrun hout hop (hgen.trans hsg.symm)
    rw [hstore] at this
    exact absurd this (by decide)

/-! ### non-vacuity: the same schedule under the fixed mechanism, and schedules with cancellation -/

/-- fixed mechanism on `d14Trace`: the worker that copied generation 1 publishes it (1 > 0) but the
store stays dirty (2 ≠ 1), so the second request is not a cache hit; completing it as a full run
returns generation 2. -/
def d14TraceFixed : List Label :=
  [.set 0 1, .cEnter 0 true, .cClear 0, .rTrack 0, .rStart 0, .wBegin 0, .set 0 2, .wRun 0, .wPublish 0, .wRet 0]
  ++ request 1

example :
    (runFrom .fixed id (init id) d14TraceFixed).map (fun s => (s.store, s.gen, s.cachedGen)) = some ([(0, 2)], 2, 2) ∧
    (runFrom .fixed id (init id) d14TraceFixed).map (fun s => (outcome? s 0, outcome? s 1))
      = some (some (.ok 1 [(0, 1)]), some (.ok 2 [(0, 2)])) := by decide +kernel

/-- `d14Trace` itself is not even executable under the fixed mechanism: `wRet 1` right after `wBegin 1`
would need a cache hit. -/
example : runFrom .fixed id (init id) d14Trace = none := by decide +kernel

/-- instance of `consistent_snapshot` / `no_lost_update` / `quiescent_fresh` hypotheses -/
example : ∃ s, runFrom .fixed id (init id) d14TraceFixed = some s ∧ outcome? s 1 = some (.ok 2 [(0, 2)]) ∧
    (s.ops[1]?).map (·.startGen) = some s.gen := by
  show ∃ s ∈ runFrom .fixed id (init id) d14TraceFixed, _
  decide +kernel

/-- a request cancelled by an explicit `cancel()` between copy and run: the worker observes the token
in `run`, reports `cancelled`, the cache still holds the initial result; the canceller was blocked
in `join` until the worker died.  (hypotheses of `cancelled_publishes_nothing`) -/
def cancelTrace : List Label :=
  [.set 0 1, .set 1 1, .cEnter 0 true, .cClear 0, .rTrack 0, .rStart 0, .wBegin 0,
   .cEnter 1 false, .wRun 0, .wRet 0, .cJoin 1, .cClear 1]

example :
    (runFrom .fixed (id : Store → Store) (init id) cancelTrace).map (fun s => outcome? s 0) = some (some .cancelled) ∧
    (runFrom .fixed (id : Store → Store) (init id) cancelTrace).map (fun s => (s.cached, s.cachedGen)) = some ([], 0) ∧
    (runFrom .fixed (id : Store → Store) (init id) cancelTrace).map (fun s => (s.flag, s.joiner)) = some (false, none) := by decide +kernel

/-- while the canceller holds the launcher lock in `join`, it cannot finish before the worker dies -/
example : runFrom .fixed id (init id)
    [.set 0 1, .cEnter 0 true, .cClear 0, .rTrack 0, .rStart 0, .wBegin 0, .cEnter 1 false, .cJoin 1] = none := by
  decide +kernel

/-! ### the generation bump and the mutation it announces must be ONE critical section -/

/-- `db[1] = v2; flush; ` then `del db[1]` split in two critical sections (bump first) with a complete
request in between, then a quiescent request. -/
def splitDeleteTrace : List SLabel :=
  [.base (.set 1 2)] ++ (request 0).map .base ++ [.delBump] ++ (request 1).map .base ++ [.delRemove 1]
  ++ [.base (.cEnter 2 true), .base (.cClear 2), .base (.rTrack 2), .base (.rStart 2), .base (.wBegin 2), .base (.wRet 2)]

/-- With a non-atomic delete even the fixed mechanism loses the update: the request that runs between the
bump and the removal copies the page that is about to disappear under the already-bumped generation
and publishes it as clean; after the removal the store is empty, nothing is dirty, and the quiescent
request 2 returns the cached result that still contains page 1.  (`quiescent_fresh` needs the atomic
`del` of `step`; this is the seeded defect the free-scheduling stream of the harness finds.) -/
theorem nonatomic_delete_refuted :
    (runSplit .fixed id (init id) splitDeleteTrace).map (fun s => (s.store, dirty .fixed s)) = some ([], false) ∧
    (runSplit .fixed id (init id) splitDeleteTrace).map (fun s => outcome? s 2) = some (some (.ok 2 [(1, 2)])) ∧
    (runSplit .fixed id (init id) splitDeleteTrace).map (fun s => (s.ops[2]?).map (·.startGen)) = some (some 2) := by
  decide +kernel

/-- the same operations with the atomic `del` of the model: request 2 returns the empty store -/
example :
    (runFrom .fixed id (init id) ([.set 1 2] ++ request 0 ++ [.del 1] ++ request 1 ++
        [.cEnter 2 true, .cClear 2, .rTrack 2, .rStart 2, .wBegin 2, .wRet 2])).map (fun s => outcome? s 2)
      = some (some (.ok 2 [])) := by decide +kernel

/-! ### a cancellation that is waiting for its worker is never erased -/

/-- the cancellation token is set for as long as some `cancel()` is blocked in `join()` -/
def JoinFlag (s : St R) : Prop := s.joiner ≠ none → s.flag = true

theorem joinFlag_init (post : Store → R) : JoinFlag (init post) := fun h => absurd rfl h

theorem setOp_flag_joiner (s : St R) (r : Nat) (o : Op R) :
    (setOp s r o).flag = s.flag ∧ (setOp s r o).joiner = s.joiner := ⟨rfl, rfl⟩

/-- only `cEnter` and `cJoin` write the token or the launcher lock: the first leaves the token set if it keeps the lock,
the second gives the lock back -/
theorem joinFlag_step {m : Mode} {post : Store → R} {s s' : St R} {l : Label} (hj : JoinFlag s)
    (hs : step m post s l = some s') : JoinFlag s' := by
  cases step_shape hs with
  | data | op | publish => exact hj
  | enter h => exact fun hn => h.resolve_right hn
  | join => exact fun hn => absurd rfl hn

/-- **A pending cancellation is never erased.** In every reachable state, whatever the interleaving of requests,
cancellations and store mutations: while a `cancel()` (or the `cancel()` at the start of a `run()`) waits in `join()` for the
tracked worker, the token it set is still set - no other thread's `clear()` can take it away, because the token is only
cleared inside the critical section of the launcher lock that the waiting canceller holds. (With `clear()` after the lock
was released - the code before the fix - the delayed `clear()` of an earlier operation erased it: the worker ran to the
end and published although a cancellation directed at it had been issued and was still waiting.) -/
theorem pending_cancel_not_erased {m : Mode} {post : Store → R} {ls : List Label} {s : St R}
    (hr : runFrom m post (init post) ls = some s) : JoinFlag s :=
  runFrom_preserves joinFlag_step (joinFlag_init post) hr

/-- the schedule on which the code before the fix lost a cancellation: with the repaired protocol the last label shown here
(the delayed `cClear 0`) leaves the token set while operation 2 is still waiting -/
example : (runFrom .fixed id (init id)
    [.cEnter 0 true, .cEnter 1 true, .cClear 1, .rTrack 1, .rStart 1, .wBegin 1, .cEnter 2 false, .cClear 0]).map
      (fun s => (s.joiner, s.flag)) = some (some 2, true) := by decide +kernel

end SnootyVerif.C13
