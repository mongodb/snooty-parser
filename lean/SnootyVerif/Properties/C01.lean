import SnootyVerif.Proofs.Dispatch
import SnootyVerif.Proofs.Enumerator
import SnootyVerif.Proofs.StateMachine
import SnootyVerif.Proofs.Validators
import SnootyVerif.Gen.Dispatch
import SnootyVerif.Gen.NodeKinds
import SnootyVerif.Gen.Emitted
import SnootyVerif.Gen.Enum
import SnootyVerif.Gen.VisitPaths
import SnootyVerif.Proofs.Visitor

/-!
# C01 — Parsing is total: any source text yields an AST plus diagnostics

Five layers, each tied to the code:

1. **Visitor dispatch** (`JSONVisitor.dispatch_visit`, `InlineJSONVisitor`): the isinstance chain, the node-class MROs and
   the set of node classes the parser layer constructs are TRANSLATED from the repo on every run (`Gen/Dispatch.lean`,
   `Gen/NodeKinds.lean`, `Gen/Emitted.lean`); the theorems are `decide`d on those tables, so a removed / reordered branch,
   a new node class without a branch, or a raising catch-all breaks them.
2. **Exception handlers and reporter threshold** (`Gen/Enum.lean`, `Gen/Dispatch.lean`): every exception class the option
   validators / option extraction can raise is turned into `MarkupError`, which `run_directive` / `explicit_construct`
   turn into a system message; `halt_level` is above every message level.
3. **Enumerators** (`roman.py`, `Body.parse_enumerator`): the greedy conversions over the generated numeral map.
4. **Line loop** (`StateMachine.run_sm`): terminates within `4·lines + 6` iterations under the `Progress` contract, which the
   harness monitors on every real parse.

5. **The visitor's node stack** (`Node.walkabout` + the push/pop bookkeeping of `dispatch_visit` / `dispatch_departure`,
   `Model/Visitor.lean`): every control-flow path of every branch is TRANSLATED on each run (`Gen/VisitPaths.lean`) and
   `decide`d to keep pushes and pops paired; for EVERY doctree whose nodes had such outcomes the walk never pops an empty
   stack, never trips the definition-term assertion, and builds exactly the tree of a stack-free specification
   (`visitor_stack_spec`, by induction over the tree). The harness compares, on every real parse, the outcome observed on
   each doctree node with the translated table and the attach events of the real visitor with the model's.

What is NOT modelled (regular expressions of `Inliner`/`Body`, each directive's `run()`, departure handlers) is covered by
the grammar-based fuzz of `harness/props/c01.py` only.
-/
namespace SnootyVerif.C01
open SnootyVerif.Dispatch

/-- `JSONVisitor.dispatch_visit` / `InlineJSONVisitor.dispatch_visit` on the generated tables -/
def visit : String → Option (List String) := dispatch Gen.nodeKinds Gen.visitChain Gen.visitElse
def visitInline : String → Option (List String) := dispatchInline Gen.nodeKinds Gen.visitChain Gen.visitElse Gen.inlineSkip

/-- NO class at all (even one added later) can reach a raising outcome, because neither a branch nor the catch-all
raises. -/
theorem dispatch_total_every_class (mro : List String) :
    outcomeOk (firstMatch Gen.visitChain Gen.visitElse mro) = true :=
  firstMatch_ok _ _ _ (by decide +kernel) (by decide +kernel)

/-- No node class the state machine, the directives or the role handlers can construct reaches a raising outcome of the
visitor: every one is a known class and each way its branch leaves `dispatch_visit` is a push / return / Skip*. -/
theorem dispatch_total : ∀ k ∈ Gen.emitted, ∃ out, visit k = some out ∧ ∀ t ∈ out, isRaise t = false := by
  -- One pass over the two lists finds each emitted class among the known ones. That needs the lists in the same order:
  -- `harness/gen_c01.py` writes both `sorted`. Were that to change, this check would fail while the statement still held.
  have known : Gen.emitted.isSublist (Gen.nodeKinds.map (·.1)) = true := by decide +kernel
  exact allOk_spec _ _ (allOk_dispatch dispatch_total_every_class (List.isSublist_iff_sublist.mp known).subset)

theorem dispatch_inline_total : ∀ k ∈ Gen.emitted, ∃ out, visitInline k = some out ∧ ∀ t ∈ out, isRaise t = false :=
  fun k hk => dispatchInline_ok _ (dispatch_total k hk)

/-- The catch-all branch reports a diagnostic and skips the node (children and departure). -/
theorem dispatch_else_is_diagnostic :
    Gen.visitElse.contains "diag" = true ∧ Gen.visitElse.contains "skipNode" = true ∧ outcomeOk Gen.visitElse = true := by
  decide +kernel

/-- a small copy of the tables as they were before the fix (three branches, the raising catch-all), so that the witness
below does not depend on the regenerated tables -/
def oldKinds : List (String × List String) :=
  [ ("nodes.paragraph", ["nodes.paragraph", "nodes.General", "nodes.TextElement", "nodes.Element", "nodes.Node"])
  , ("nodes.option_list", ["nodes.option_list", "nodes.Element", "nodes.Node"])
  , ("nodes.doctest_block", ["nodes.doctest_block", "nodes.General", "nodes.Body", "nodes.FixedTextElement", "nodes.TextElement", "nodes.Element", "nodes.Node"])
  , ("nodes.citation", ["nodes.citation", "nodes.General", "nodes.Body", "nodes.Element", "nodes.Node"])
  , ("nodes.citation_reference", ["nodes.citation_reference", "nodes.Inline", "nodes.TextElement", "nodes.Element", "nodes.Node"])
  , ("rstparser.target_directive", ["rstparser.target_directive", "rstparser.directive", "nodes.General", "nodes.Body", "nodes.Element", "nodes.Node"]) ]
def oldChain : List (List String × List String) :=
  [ (["rstparser.target_directive"], ["push", "ret"]), (["rstparser.directive"], ["push", "ret"])
  , (["nodes.paragraph"], ["push", "ret", "skipDeparture"]) ]
def oldElse : List String := ["raise:NotImplementedError"]

/-- The unfixed catch-all (`raise NotImplementedError`) is reached by four constructs the state machine emits. -/
theorem dispatch_refuted :
    ["nodes.option_list", "nodes.doctest_block", "nodes.citation", "nodes.citation_reference"].all
      (fun k => dispatch oldKinds oldChain oldElse k = some ["raise:NotImplementedError"]) = true
    ∧ allOk (dispatch oldKinds oldChain oldElse) ["nodes.paragraph", "nodes.option_list"] = false := by
  decide +kernel

example : dispatch oldKinds oldChain ["diag", "skipNode"] "nodes.option_list" = some ["diag", "skipNode"] := by decide +kernel
example : dispatch oldKinds oldChain oldElse "nodes.paragraph" = some ["push", "ret", "skipDeparture"] := by decide +kernel
example : dispatch oldKinds oldChain oldElse "rstparser.target_directive" = some ["push", "ret"] := by decide +kernel  -- first match wins
example : dispatchInline oldKinds oldChain oldElse (["nodes.Body"], ["nodes.Inline"]) "nodes.doctest_block" = some ["ret"] := by decide +kernel
example : dispatchInline oldKinds oldChain oldElse (["nodes.Body"], ["nodes.Inline"]) "nodes.option_list" = some ["raise:NotImplementedError"] := by decide +kernel
example : dispatch oldKinds oldChain oldElse "nodes.nonexistent" = none := by decide +kernel
example : Gen.emitted ≠ [] ∧ Gen.visitChain.length > 10 := by decide +kernel

/-- Branches that contain an `assert`, each with the reason it cannot fire on a doctree built by the state machine.
A new `assert` in any other branch breaks `asserts_justified`. -/
def justifiedAsserts : List String :=
  [ "nodes.field"        -- `field.parent` is a field_list: fields are only created by Body.field / FieldList
  , "rstparser.code"     -- top of state is a Parent: Text/Code/Transition leaves are popped on departure before a sibling
  , "nodes.target"       -- at most one id: set_id appends one id to a node that has none
  , "nodes.list_item"    -- list_item is only appended to bullet_list / enumerated_list, whose branches push a ListNode
  , "nodes.title" ]      -- a title is created inside a section / document

theorem asserts_justified : ∀ b ∈ Gen.assertingBranches, b ∈ justifiedAsserts := by decide +kernel

def mroOfExc (e : String) : List String := (lookup Gen.excKinds e).getD []

/-- Everything `utils.extract_extension_options` can raise — `KeyError` (unknown option), `ValueError`/`TypeError` (the
validators, see `validators_only_value_errors`), the `ExtensionOptionError` family — is re-raised as `MarkupError` by
`parse_extension_options`, and `MarkupError` is handled (turned into a system message) by `explicit_construct`, the frame
through which every construct method (directive, substitution definition with its embedded directive, target, footnote,
citation) is called. (`run_directive` has its own `except MarkupError` for a better message; totality does not need it.) -/
theorem option_errors_handled :
    (["KeyError", "ValueError", "TypeError", "ExtensionOptionError", "BadOptionError", "BadOptionDataError", "DuplicateOptionError"].all
      (fun e => caughtBy Gen.optionHandlers (mroOfExc e) = some ["raise:MarkupError"])) = true
    ∧ caughtBy Gen.explicitConstructHandlers (mroOfExc "MarkupError") = some ["handled"] := by
  decide +kernel

/-- `halt_level` is above every system-message level, so `Reporter.system_message` never raises `SystemMessage`. -/
theorem system_messages_never_raise (level : Nat) (h : level ≤ maxLevel) : reporterRaises Gen.haltLevel level = false := by
  have : maxLevel < Gen.haltLevel := by decide
  simp only [reporterRaises, decide_eq_false_iff_not, ge_iff_le, Nat.not_le]
  omega

example : reporterRaises 3 3 = true := by decide   -- a lowered halt_level would raise on ERROR

open SnootyVerif.Enumerator in
/-- the tables of the running code -/
def romanR : SnootyVerif.Enumerator.Roman := ⟨Gen.romanMap, Gen.romanMax⟩
def enumTables : SnootyVerif.Enumerator.Tables := ⟨romanR, Gen.enumSequences, Gen.converterHandlers⟩

/-- The numeral map is in strictly decreasing order of value, every value is positive and no numeral is empty: both greedy
loops of roman.py terminate (each iteration subtracts a positive value / consumes at least one character). -/
theorem roman_map_strictly_decreasing : Enumerator.mapWellFormed Gen.romanMap = true := by decide +kernel

/-- `from_roman(to_roman(n)) == n` for every n that has a numeral: no numeral of the map begins anything the numerals
after it write, so the greedy reading takes back exactly what the greedy writing put (`Proofs/Enumerator.lean:
roundtrip`; the check of the map is evaluated here). -/
theorem roman_roundtrip (n : Nat) (h1 : 1 ≤ n) (h2 : n ≤ 4999) :
    (Enumerator.toRoman romanR n).bind (Enumerator.fromRoman romanR) = .ok n :=
  Enumerator.roundtrip romanR (by decide +kernel) n h1 (Nat.lt_succ_of_le h2)

/-- outside 1..4999 `to_roman` raises (a ValueError), it never loops or returns an empty numeral -/
theorem roman_out_of_range : Enumerator.toRoman romanR 0 = .error .ValueError ∧ Enumerator.toRoman romanR 5000 = .error .ValueError := by
  decide +kernel

/-- both conversions return or raise `ValueError`, nothing else -/
theorem fromRoman_total (s : List Char) :
    (∃ n, Enumerator.fromRoman romanR s = .ok n) ∨ Enumerator.fromRoman romanR s = .error .ValueError :=
  Enumerator.fromRoman_total _ s

/-- an accepted numeral is the canonical spelling of its value (`IIII`, `VX`, `IC` are rejected because they do not spell back) -/
theorem fromRoman_canonical (s : List Char) (n : Nat) (h : Enumerator.fromRoman romanR s = .ok n) :
    Enumerator.toRoman romanR n = .ok s :=
  Enumerator.fromRoman_sound _ s n h

example : Enumerator.toRoman romanR 1994 = .ok ['M','C','M','X','C','I','V'] := by decide +kernel
example : Enumerator.fromRoman romanR ['X','X','I'] = .ok 21 := by decide +kernel
example : Enumerator.fromRoman romanR ['M','M','M','M','C','M','X','C','I','X'] = .ok 4999 := by decide +kernel
example : Enumerator.fromRoman romanR ['I','I','I','I'] = .error .ValueError := by decide +kernel
example : Enumerator.fromRoman romanR ['V','X'] = .error .ValueError := by decide +kernel
example : Enumerator.fromRoman romanR ['I','C'] = .error .ValueError := by decide +kernel
example : Enumerator.fromRoman romanR [] = .error .ValueError := by decide +kernel
example : Enumerator.fromRoman romanR ['M','M','M','M','M'] = .error .ValueError := by decide +kernel

/-- the lookup tables of the code before the repairs: first with VIII written "VII" (8 reads back as 7, "VIII" is not a
numeral), then corrected but ending at XX ("XXI" is not a numeral, 21 has none) — while the algorithm handles both -/
def oldRoman : List (List Char) :=
  [['I'], ['I','I'], ['I','I','I'], ['I','V'], ['V'], ['V','I'], ['V','I','I'], ['V','I','I'], ['I','X'], ['X']]
def oldRoman20 : List (List Char) :=
  [['I'], ['I','I'], ['I','I','I'], ['I','V'], ['V'], ['V','I'], ['V','I','I'], ['V','I','I','I'], ['I','X'], ['X'],
   ['X','I'], ['X','I','I'], ['X','I','I','I'], ['X','I','V'], ['X','V'], ['X','V','I'], ['X','V','I','I'],
   ['X','V','I','I','I'], ['X','I','X'], ['X','X']]

theorem roman_table_refuted :
    (Enumerator.toRomanTable oldRoman 8).bind (Enumerator.fromRomanTable oldRoman) = .ok 7
    ∧ Enumerator.fromRomanTable oldRoman ['V','I','I','I'] = .error .ValueError
    ∧ Enumerator.fromRomanTable oldRoman20 ['X','X','I'] = .error .ValueError
    ∧ Enumerator.toRomanTable oldRoman20 21 = .error .ValueError
    ∧ Enumerator.fromRoman romanR ['X','X','I'] = .ok 21
    ∧ Enumerator.fromRoman romanR ['V','I','I','I'] = .ok 8 := by decide +kernel

/-- the `except` around the converter call answers `ValueError` with "no ordinal" -/
theorem enumerator_conversion_handled : Enumerator.onConvertError Gen.converterHandlers .ValueError = .ok none := by
  decide +kernel

/-- `Body.parse_enumerator` returns for every text the enumerator pattern can match, whatever sequence the caller expects
(`EnumeratedList` passes the parent list's `enumtype`, always one of the five sequence names). -/
theorem parseEnumerator_total (text : List Char) (expected : Option String)
    (hm : Enumerator.EnumeratorMatch enumTables text)
    (he : ∀ e, expected = some e → e ∈ Gen.enumSequences) :
    ∃ r, Enumerator.parseEnumerator enumTables text expected = .ok r :=
  Enumerator.parseEnumerator_ok enumTables text expected enumerator_conversion_handled hm
    fun e hexp => Enumerator.seqMatches_ne_none.mpr ((by decide +kernel : Gen.enumSequences ⊆ _) (he e hexp))

/-- the unfixed handler (`except ValueError: raise ParserError`) on `iiii.` -/
theorem parseEnumerator_refuted :
    Enumerator.parseEnumerator ⟨romanR, Gen.enumSequences, [(["ValueError"], ["raise:ParserError"])]⟩ ['i','i','i','i'] none
      = .error .ParserError := by decide +kernel

example : Enumerator.parseEnumerator enumTables ['x','x','i'] none = .ok ("lowerroman", some 21) := by decide +kernel
example : Enumerator.parseEnumerator enumTables ['i','i','i','i'] none = .ok ("lowerroman", none) := by decide +kernel
example : Enumerator.parseEnumerator enumTables ['M','C','M','X','C','I','V'] none = .ok ("upperroman", some 1994) := by decide +kernel
example : Enumerator.parseEnumerator enumTables ['v','i','i','i'] none = .ok ("lowerroman", some 8) := by decide +kernel
example : Enumerator.parseEnumerator enumTables ['i'] none = .ok ("lowerroman", some 1) := by decide +kernel
example : Enumerator.parseEnumerator enumTables ['c'] none = .ok ("loweralpha", some 3) := by decide +kernel
example : Enumerator.parseEnumerator enumTables ['c'] (some "lowerroman") = .ok ("lowerroman", some 100) := by decide +kernel
example : Enumerator.parseEnumerator enumTables ['4','2'] (some "upperroman") = .ok ("arabic", some 42) := by decide +kernel
example : Enumerator.EnumeratorMatch enumTables ['x','x','i'] := Or.inr ⟨"lowerroman", by decide +kernel, by decide +kernel⟩

open SnootyVerif.StateMachine in
/-- Under the Progress contract the `run_sm` loop ends within `4·lines + 6` iterations, from the initial configuration
(`line_offset = -1`, no forced transition, any initial state). -/
theorem runSM_terminates {σ τ : Type} (m : Machine σ τ) (look : σ → Bool) (hP : Progress m look) (init : σ) :
    (run m (4 * m.n + 6) ⟨0, init, none⟩).2 = true ∧ (run m (4 * m.n + 6) ⟨0, init, none⟩).1 ≤ 4 * m.n + 6 := by
  have hw : weight m look (⟨0, init, none⟩ : Cfg σ τ) < 4 * m.n + 6 := by
    simp only [weight, Nat.sub_zero]
    split <;> omega
  have := run_finishes hP (4 * m.n + 6) ⟨0, init, none⟩ hw
  exact ⟨this.1, by omega⟩

section nonvacuity
open SnootyVerif.StateMachine
/-- a three-line input where line 0 is an overline: state 0 = Body, 1 = Line (look-ahead), 2 = Text.
Body@0 enters Line; Line@1 raises StateCorrection back to line 0 with `text` forced; Body.text@0 enters Text; Text reads on. -/
def demo : Machine Nat Unit :=
  { n := 3
    check := fun s f o =>
      match s, f, o with
      | 0, none, 0 => .advance 0 1
      | 1, none, 1 => .stateCorr 0 0 (some ())
      | 0, some _, _ => .advance o 2
      | _, _, _ => .advance o 0 }

example : run demo 18 ⟨0, 0, none⟩ = (6, true) := by decide +kernel
end nonvacuity

/-- An option validator of `specparser.VALIDATORS` (incl. enum choices and unions) can only raise `ValueError` or
`TypeError` — exactly the classes `parse_extension_options` converts (see `option_errors_handled`). -/
theorem validators_only_value_errors (E : Validators.Env) (k : Validators.Kind) (a : Option (List Char)) (e : Validators.PyErr)
    (h : Validators.validate E k a = .error e) : e = .ValueError ∨ e = .TypeError :=
  Validators.validate_err E k a e h

section nonvacuity
open SnootyVerif.Validators
def asciiEnv : Env :=
  { isSpace := fun c => c = ' ' || c = '\t' || c = '\n'
    digitVal := fun c => if '0' ≤ c ∧ c ≤ '9' then some (c.toNat - 48) else none
    lower := fun c => [if 'A' ≤ c ∧ c ≤ 'Z' then Char.ofNat (c.toNat + 32) else c] }

example : validate asciiEnv .nonnegativeInteger (some ['-','1']) = .error .ValueError := by decide +kernel
example : validate asciiEnv .nonnegativeInteger (some [' ','1','_','0']) = .ok (.int 10) := by decide +kernel
example : validate asciiEnv .integer none = .error .TypeError := by decide +kernel
example : validate asciiEnv .boolean (some ['T','r','u','e']) = .ok (.bool true) := by decide +kernel
example : validate asciiEnv .length (some ['1','0',' ','p','x']) = .ok (.str ['1','0','p','x']) := by decide +kernel
example : validate asciiEnv .length (some ['1','.','2','.','3']) = .error .ValueError := by decide +kernel
example : validate asciiEnv (.union [.nonnegativeInteger, .flag]) (some ['x']) = .error .ValueError := by decide +kernel
example : validate asciiEnv (.union [.nonnegativeInteger, .flag]) none = .ok (.bool true) := by decide +kernel
end nonvacuity

section VisitorStack
open SnootyVerif.Visitor

/-- does `dispatch_departure` return at once for a node whose branch tests `classes`? (`isinstance(node, departSkipClasses)`
is decided per branch: the branch key is the class the node is an instance of) -/
def branchDepartSkip (classes : List String) : Bool := classes.any (fun c => Gen.departSkipClasses.contains c)

/-- paths that do not keep the pairing, each with the reason it cannot be taken on a doctree the state machine builds.
A new unpaired path anywhere in `dispatch_visit` breaks `visit_paths_balanced`. -/
def justifiedPaths : List (String × Nat × String × String) :=
  [ -- `node["names"][0]` raising IndexError: Body.substitution_def always appends the normalised name before the node is
    -- attached (monitored: no substitution_definition node of a real parse has an empty `names`)
    ("nodes.substitution_definition", 0, "normal", "except IndexError") ]

def unbalancedPaths : List (String × Nat × String × String) :=
  (Gen.visitPaths.flatMap (fun (b : List String × List (Nat × String × String)) =>
    (b.2.filter (fun p => !pathBalanced (branchDepartSkip b.1) p)).map (fun p => (b.1.headD "", p.1, p.2.1, p.2.2))))
  ++ (Gen.visitPathsElse.filter (fun p => !pathBalanced false p)).map (fun p => ("<else>", p.1, p.2.1, p.2.2))

/-- **every way through `dispatch_visit` keeps pushes and pops paired** (table regenerated from the source on every run):
a path that returns normally or skips the children pushed exactly one node; a path that raises SkipNode / SkipDeparture
pushed none; no path raises anything else. The only exceptions are the justified ones. -/
theorem visit_paths_balanced : ∀ p ∈ unbalancedPaths, p ∈ justifiedPaths := by decide +kernel

/-- `dispatch_departure` is `if len(state) == 1 or isinstance(node, …): return` followed by exactly one unconditional
`state.pop()`, pushes nothing, and no other method of the visitor classes touches the stack. -/
theorem departure_shape :
    Gen.departLenOneGuard = true ∧ Gen.departPopsTop = 1 ∧ Gen.departPopsAll = 1 ∧ Gen.departFirstIsPop = true
    ∧ Gen.departPushes = 0 ∧ Gen.departOtherWrites = []
    ∧ ∀ m ∈ Gen.stateMutators, m ∈ ["dispatch_visit", "dispatch_departure"] := by decide +kernel

/-- **The stack is a faithful tree builder, for every doctree.** If the outcome of `dispatch_visit` on every node is one
of the paired ones (`balanced`) and terms are handed to definition list items only (`termsOk`), then walking any node
from any non-empty stack succeeds, leaves everything below the top untouched, and hands the top exactly the nodes of the
stack-free specification `emit`, in document order. -/
theorem visitor_stack_spec (d : DNode) (top : T) (rest : List T) (hb : balanced d = true) (ht : termsOk top.kind d = true) :
    walk (top :: rest) d = .ok (attachAllT top (emit d) :: rest) := walk_spec d top rest hb ht

/-- the whole document: the walk starts from the empty stack, never raises, and returns the root built by the specification -/
theorem visitor_document_total (id : Nat) (kind : AKind) (cs : List DNode) (hb : balancedL cs = true) (ht : termsOkL kind cs = true) :
    walkDoc (.mk id 1 .normal kind false cs) = .ok (attachAllT (.mk id kind [] []) (emitL cs)) := walkDoc_spec id kind cs hb ht

/-- nothing is invented: every AST node stems from a doctree node of the subtree it was built from -/
theorem visitor_ids_from_doctree (d : DNode) (i : Nat) (h : i ∈ idsL (emit d)) : i ∈ d.ids := emit_ids_mem d i h

/-- **reading order** (C03): for containers that keep their children, the AST read depth-first is a subsequence of the
doctree read depth-first — nothing reordered, nothing duplicated -/
theorem visitor_reading_order (d : DNode) (h : plain d = true) : (idsL (emit d)).Sublist d.ids := emit_ids_sublist d h

/- non-vacuity and the failure modes the hypotheses exclude -/

/-- a section with a title and a paragraph holding text, an emphasis and a skipped system message -/
def demoDoc : DNode :=
  .mk 0 1 .normal .parent false
    [ .mk 1 1 .normal .parent false
        [ .mk 2 1 .normal .parent false [.mk 3 1 .normal .leaf false []],
          .mk 4 1 .normal .parent false
            [ .mk 5 1 .normal .leaf false [], .mk 6 1 .normal .parent false [.mk 7 1 .normal .leaf false []],
              .mk 8 0 .skipNode .parent false [.mk 9 1 .normal .leaf false []] ] ] ]

example : balanced demoDoc = true ∧ plain demoDoc = true := by decide +kernel
example : (walkDoc demoDoc).map T.ids = .ok [0, 1, 2, 3, 4, 5, 6, 7] := by decide +kernel

/-- a definition list: term and definition (whose departure returns early) under an item -/
def demoDl : DNode :=
  .mk 0 1 .normal .parent false
    [ .mk 1 1 .normal .parent false
        [ .mk 2 1 .normal .dlItem false
            [ .mk 3 1 .normal .term false [.mk 4 1 .normal .leaf false []],
              .mk 5 0 .normal .parent true [.mk 6 1 .normal .parent false [.mk 7 1 .normal .leaf false []]] ] ] ]

example : balanced demoDl = true ∧ termsOk .parent demoDl = true := by decide +kernel
example : (walkDoc demoDl).map T.ids = .ok [0, 1, 2, 4, 6, 7] := by decide +kernel

/-- **what an unpaired path does** (the `.. todo::` defect repaired earlier: nothing pushed, normal return): the
departure pops the ENCLOSING node early; the sibling that follows is attached one level too high. -/
theorem unbalanced_misnests :
    let todo : DNode := .mk 2 0 .normal .parent false []
    let doc : DNode := .mk 0 1 .normal .parent false [.mk 1 1 .normal .parent false [todo, .mk 3 1 .normal .leaf false []]]
    balanced doc = false ∧
    (walkDoc doc).map (fun t => t.cs.map (fun c => (c.id, c.cs.map T.id))) = .ok [(1, []), (3, [])]
    ∧ (emit doc).map (fun t => t.cs.map (fun c => (c.id, c.cs.map T.id))) = [[(1, [3])]] := by decide +kernel

/-- a term outside a definition list item trips the assertion -/
theorem stray_term_asserts :
    (walkDoc (.mk 0 1 .normal .parent false [.mk 1 1 .normal .term false []])).map T.ids = .error .assertionError := by decide +kernel

end VisitorStack

end SnootyVerif.C01
