import SnootyVerif.Proofs.EventWalk
import SnootyVerif.Gen.Guards
import SnootyVerif.Gen.Handlers
import SnootyVerif.Proofs.Handlers
import SnootyVerif.Proofs.TitleInject
import SnootyVerif.Properties.C06
import SnootyVerif.Properties.C07
import SnootyVerif.Properties.C10

/-!
# C02 — Postprocessing is total: any parsed project yields output plus diagnostics

The event walk that drives all five passes (`EventParser`) is modelled in `Model/EventWalk.lean`;
the unbounded recursions of the passes are the include pass (C06 `expand_terminates`), the
substitution pass (C07 `static_terminates`) and the toctree walk (C10 `buildToc_fuel`), re-exported
here. Handlers' partial operations (option subscripts, `next`, `list.remove`) are not modelled
one by one: they are covered by the correspondence/oracle run over parser-produced projects and by
the guard table `Gen/Guards.lean` (see `guards_justified`).
-/
namespace SnootyVerif.C02
open SnootyVerif.EventWalk

/-- The walk of any tree leaves the file stack exactly as it found it (pushes and pops balance),
and fires exactly the events of the stack-free specification. -/
theorem walk_balanced (d : Nd) (s : Stack) : (iterate s d).2 = s := by
  rw [iterate_spec]

theorem walk_events_eq_spec (d : Nd) (s : Stack) : (iterate s d).1 = spec s.root s.cur d := by
  rw [iterate_spec]

/-- While a page (whose AST is a Root) is walked, `fileid_stack.root` is that page's file and
`fileid_stack.current` is defined at EVERY event: the properties never raise IndexError and
handlers always file diagnostics under a real file. -/
theorem stack_discipline (id : Nat) (file : String) (cs : List Nd) :
    (iterate [] (.root id file cs)).1.all (okEvt file) = true := by
  rw [iterate_spec]
  exact spec_ok (.root id file cs) file file

/-- After a page the stack is empty again, whatever the page contains. -/
theorem consume_page_clears (file : String) (ast : Nd) : (consumePage file ast).2 = [] := rfl

/-- Content spliced under an include (a nested Root) is attributed to the included file, and the
enclosing file is current again afterwards. -/
example : (iterate [] (.root 1 "index.txt" [.plain 2 [.root 3 "inc.rst" [.leaf 4]], .leaf 5])).1
    = [.enter 1 (some "index.txt") (some "index.txt"), .enter 2 (some "index.txt") (some "index.txt"),
       .enter 3 (some "index.txt") (some "inc.rst"), .enter 4 (some "index.txt") (some "inc.rst"),
       .exit 4 (some "index.txt") (some "inc.rst"), .exit 3 (some "index.txt") (some "inc.rst"),
       .exit 2 (some "index.txt") (some "index.txt"), .enter 5 (some "index.txt") (some "index.txt"),
       .exit 5 (some "index.txt") (some "index.txt"), .exit 1 (some "index.txt") (some "index.txt")] := by
  decide +kernel

/-- **Handler bookkeeping never underflows.** A handler that pushes on `enter_node` and pops on
`exit_node` under the SAME test on the node (ContentsHandler / TabsSelectorHandler `scanned_pattern`,
SubstitutionHandler's replacement-table and active-reference stacks, section depth counters) sees,
over the walk of any tree and from any initial stack, no pop from an empty stack, and finds its stack
exactly as before afterwards. (That enter and exit do use the same test is monitored on the real
handlers by the harness: the stack length at exit equals the length before the matching enter.) -/
theorem handler_stack_discipline (P : Nat → Bool) (d : Nd) (s : Stack) (st : List Nat) :
    bracket P (iterate s d).1 st = some st := by
  rw [iterate_spec]
  exact bracket_spec P _ _ d st

/-- Option subscripts that may stay unguarded, with the reason: both keys are written on the page's
Root options by the same function a few lines earlier (`if not options.get(k): options[k] = {}`). -/
def justified : List (String × String) :=
  [("TabsSelectorHandler.exit_page", "selectors"), ("TabsSelectorHandler.exit_page", "default_tabs")]

/-- Every `X.options["key"]` read in postprocess.py (table regenerated from /repo on every run) is
protected by a membership test / early exit / try-except, or is one of the justified reads: no
handler can raise KeyError on a directive whose option the author left out. -/
theorem guards_justified : ∀ p ∈ SnootyVerif.Gen.unguardedOptionReads, p ∈ justified := by decide +kernel

section
open SnootyVerif.Handlers

/-- `TabsSelectorHandler.scan_for_pattern` never raises IndexError and reports the nesting exactly when the target pattern
is a subsequence of the open directives - for every stack of directive names and every non-empty pattern. -/
theorem scan_for_pattern_total_and_exact (pattern stack : List String) (h : pattern ≠ []) :
    ∃ b, scanForPattern pattern stack = .ok b ∧ (b = true ↔ pattern.Sublist stack) :=
  ⟨_, scanForPattern_eq h stack, List.isSublist_iff_sublist⟩

/-- the pattern the code uses (translated from an instance on every run) is non-empty -/
theorem tabs_pattern_nonempty : Gen.tabsTargetPattern ≠ [] := by decide

theorem tabs_scan_total (stack : List String) :
    ∃ b, scanForPattern Gen.tabsTargetPattern stack = .ok b ∧ (b = true ↔ Gen.tabsTargetPattern.Sublist stack) :=
  scan_for_pattern_total_and_exact _ _ tabs_pattern_nonempty

example : (scanForPattern ["tabs", "tabs", "procedure"] ["tabs", "tab", "tabs", "tab", "procedure", "step", "procedure"]).toOption = some true := by decide +kernel
example : (scanForPattern ["tabs", "tabs", "procedure"] ["tabs", "tab", "procedure"]).toOption = some false := by decide +kernel

/-- the seeded change C02-6 (completeness test hoisted out of the loop) on the model: IndexError on exactly the stack
its demonstration uses -/
theorem scan_no_stop_refuted :
    (scanLoopNoStop ["tabs", "tabs", "procedure"] 0 ["tabs", "tab", "tabs", "tab", "procedure", "step", "procedure"]).toOption = none
    ∧ (scanLoopNoStop ["tabs", "tabs", "procedure"] 0 ["tabs", "tab", "tabs", "tab", "procedure"]).toOption = some true := by
  decide +kernel

end

/-! ## the fourth unbounded recursion: title injection of the reference pass -/

section
open SnootyVerif.TitleInject

/-- what `without_ref_roles` returns holds no cross-reference role, whatever the title looked like -/
theorem injected_title_has_no_reference (own : String) (title : List N) : hasRefL (stripL own title) = false :=
  stripL_noRef own title

/-- **The reference pass terminates** (code after the fix): walking any tree, giving every text-less reference the
stripped title of its target and descending into what was injected, never exhausts a recursion budget of
`size of the tree + largest stripped title` - even when titles contain references to themselves or to each other. -/
theorem reference_pass_terminates (titles : Titles) (M : Nat) (hM : TitlesBounded titles M) (n : N) :
    ∃ r, resolve true titles (size n + M) n = some r :=
  resolve_terminates titles M hM n (size n + M) (Nat.le_refl _)

/-- before the fix: a heading that refers to its own label exhausts EVERY recursion limit (Python: RecursionError) -/
theorem reference_pass_diverged_before_fix (fuel : Nat) : resolve false selfTitles fuel (.ref "a" []) = none :=
  resolve_unstripped_diverges fuel

/-- … and the same input after the fix: the reference is given the title without itself -/
example : (resolve true selfTitles 3 (.wrap [.text "See ", .ref "a" [], .text " here"])).map render =
    some ["<", "See ", "[", "a", "]", " here", ">"] := by
  simp [resolve, resolveL, selfTitles, stripL, strip, render, renderL]
example : (resolve true (fun t => if t = "a" then some [.text "See ", .ref "a" [], .wrap [.ref "b" [.text "x"]]] else none) 4 (.ref "a" [])).map render =
    some ["[", "a", "See ", "<", "x", ">", "]"] := by
  simp [resolve, resolveL, stripL, strip, render, renderL]
example : TitlesBounded selfTitles 0 := by
  intro t title h
  unfold selfTitles at h
  split at h
  · next ht => cases h; subst ht; simp [stripL, strip, sizeL]
  · cases h

end

/-- the three unbounded recursions of the postprocessor terminate (re-exported) -/
theorem include_pass_terminates (pages : SnootyVerif.Include.Pages) (page : String) :
    (SnootyVerif.Include.expandPage pages page).isSome := SnootyVerif.C06.expand_terminates pages page

theorem substitution_pass_terminates (env : SnootyVerif.Subst.Table) (name : String) (line : Nat) :
    (SnootyVerif.Subst.useStatic env name line).isSome := SnootyVerif.C07.static_terminates env name line

end SnootyVerif.C02
