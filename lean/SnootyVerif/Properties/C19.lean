import SnootyVerif.Proofs.Man
import SnootyVerif.Proofs.ManTotal

/-!
# C19 — Man page rendering keeps all text and never lets text become a troff request

Property theorems only; model in `Model/Man.lean` (the code AFTER `fix.patch`), lemmas in
`Proofs/ManEscape.lean`, `Proofs/Man.lean`, `Proofs/ManTotal.lean`. `render up name sec ast` returns the output as tagged chunks
(`macro | raw | text`); `flat` of it is the string `builders.man.render` returns
(byte-compared with the implementation by the harness). `up` is Python's `str.upper`, arbitrary here.
-/
namespace SnootyVerif.C19
open SnootyVerif.Man

/-- **Macros sit on fresh lines and text/raw chunks never start a control line** (the chunk-level
invariant the next theorem is derived from). -/
theorem chunks_wellformed (up : Char → Str) (name sec : Str) (ast : Ast) (cs : List Chunk)
    (h : render up name sec ast = .ok cs) : linesOk true cs := by
  obtain ⟨k, st, _, hrun, rfl⟩ := render_ok up name sec ast cs h
  exact ((run_prims hrun).inv inv_init).lines

/-- **Control lines are macros.** Wherever the rendered string has a control character (`.` or `'`)
at the start of a line — at offset 0 or right after a newline — that position is the start of a
`macro` chunk, and that chunk is exactly one line `.` body `\n`. For every AST, name, section, `upper`. -/
theorem control_lines_are_macros (up : Char → Str) (name sec : Str) (ast : Ast) (cs : List Chunk)
    (h : render up name sec ast = .ok cs) (a b : Str) (c : Char)
    (hsplit : flat cs = a ++ c :: b) (hstart : a = [] ∨ a.getLast? = some '\n') (hctl : isCtl c = true) :
    ∃ pre body post, cs = pre ++ Chunk.macro ('.' :: (body ++ ['\n'])) :: post ∧ flat pre = a ∧ '\n' ∉ body := by
  refine linesOk_split cs true a c b (chunks_wellformed up name sec ast cs h) hsplit ?_ hctl
  rcases hstart with rfl | h
  · rfl
  · simp [endsBol, h]

-- In the test vectors the kernel would evaluate `"…".toList` by decoding UTF-8 byte by byte, at many times the cost of running
-- the model; `rw [String.toList_ofList]` first puts the character list in place of a literal's `toList` (`rw` unifies a
-- literal with `String.ofList _`, `simp` does not).
example : ∃ cs, render (fun c => [c]) ['x'] ['1']
      (.pass [.paragraph [.text ['f', 'o', 'o', '\n', '.', 'b', 'a', 'r']], .code ['.', 'c']]) = .ok cs ∧
    flat cs = ".TH x 1\nfoo\n\\&.bar\n.PP\n.EX\n  .c\n.EE\n".toList := by
  rw [String.toList_ofList]
  exact ⟨_, rfl, by decide +kernel⟩

/-- **The escape alone:** escaped text holds no control character at the start of any of its lines,
wherever it is written (start of output, after a newline, after other text). -/
theorem escape_guards_every_line (s : Str) (bol : Bool) : scan bol (troffEscape s) = true :=
  scan_troffEscape s bol

example : troffEscape "foo\n.bar a\\b 'q'\n'x -y `z´".toList
    = "foo\n\\&.bar a\\eb \\(aqq\\(aq\n\\(aqx \\-y \\(gaz\\'".toList := by
  repeat rw [String.toList_ofList]
  decide +kernel

/-- Document text used as a macro argument (section titles, the page name) stays on the macro's line. -/
theorem macro_arg_single_line (s : Str) : '\n' ∉ troffEscapeArg s := nl_not_mem_troffEscapeArg s

example : troffEscapeArg "a\\b\n.c-d".toList = "a\\eb .c\\-d".toList := by
  repeat rw [String.toList_ofList]
  decide +kernel

/-- **A macro argument holds no bare double quote**: in a macro argument `"` is troff's argument quoting (the quote
characters are not output, an unbalanced one swallows the rest of the line), so document text that reaches `.SH`, `.SS`
or `.TH` has each of them written as `\(dq`. -/
theorem macro_arg_no_bare_quote (s : Str) : '"' ∉ troffEscapeArg s :=
  not_mem_replaceChar '"' _ (by decide) _

example : troffEscapeArg "Say \"hi\"".toList = "Say \\(dqhi\\(dq".toList := by
  repeat rw [String.toList_ofList]
  decide +kernel

/-- **Text in order.** The text chunks of the output, concatenated, are exactly the escaped arguments of
the `handle_text` calls of the tree walk, in walk order (TEXT / PREFORMATTED leaves and the ` (href)`
suffix of URL nodes): nothing lost at the end of the page, duplicated, reordered, or written unescaped. -/
theorem text_in_order (up : Char → Str) (name sec : Str) (ast : Ast) (cs : List Chunk)
    (h : render up name sec ast = .ok cs) :
    ∃ k, ast.toMan = .ok k ∧ textOf cs = (evTexts (eventsL k)).flatMap troffEscape := by
  obtain ⟨k, st, hk, hrun, rfl⟩ := render_ok up name sec ast cs h
  refine ⟨k, hk, ?_⟩
  simp only [ManNode.events, run_cons_ok, run_append_ok, run_nil_ok] at hrun
  obtain ⟨s1, h1, s2, h2, s3, h3, rfl⟩ := hrun
  -- the final `handle_end` flushes: nothing is left in the buffer
  have hbuf : s3.buf = [] := by cases h3; rfl
  have hall := (((step_prims h1).trans (run_prims h2)).trans (step_prims h3)).allText
  simpa [St.allText, hbuf, evTexts, textOf] using hall

example : ∃ cs, render (fun c => [c]) ['x'] ['1']
      (.pass [.paragraph [.reference ['u'] [.text ['a']], .strong [.text ['.', 'b']]]]) = .ok cs ∧
    textOf cs = "a (u)\\&.b".toList := by
  rw [String.toList_ofList]
  exact ⟨_, rfl, by decide +kernel⟩

/-- **Fonts closed.** In every rendered page the last font escape written, if there is one, is `\f1`:
no `\fB` / `\fI` stays open at the end of the page. -/
theorem fonts_closed (up : Char → Str) (name sec : Str) (ast : Ast) (cs : List Chunk)
    (h : render up name sec ast = .ok cs) : ∀ c ∈ (fontsOf cs).getLast?, c = Chunk.raw fontRoman := by
  obtain ⟨k, st, _, hrun, rfl⟩ := render_ok up name sec ast cs h
  exact (run_prims hrun).fontInv fontInv_init (stacks_fst (events_balanced up _ _ _ hrun))

example : ∃ cs, render (fun c => [c]) ['x'] ['1']
      (.pass [.paragraph [.strong [.text ['y'], .emphasis [.text ['z'], .strong [.text ['w']]]]]]) = .ok cs ∧
    flat cs = ".TH x 1\n\\fBy\\fIz\\fBw\\fI\\f1\\f1".toList ∧
    (fontsOf cs).getLast? = some (Chunk.raw fontRoman) := by
  rw [String.toList_ofList]
  exact ⟨_, rfl, by decide +kernel, by decide +kernel⟩

/-- **Font pushes and pops are balanced on every tree.** Walking any `ManNode` subtree from any handler
state (in which "no open font ⇒ last font escape is roman" holds) that does not raise returns with the
formatting stack exactly as it was, and keeps that invariant. -/
theorem fonts_balanced (up : Char → Str) (t : ManNode) (st st' : St) (hi : FontInv st)
    (hr : run up st t.events = .ok st') : st'.fstack = st.fstack ∧ FontInv st' :=
  ⟨stacks_fst (events_balanced up t st st' hr), (run_prims hr).fontInv hi⟩

example : FontInv {} := fontInv_init

/-- **Rendering is total.** For every page AST in which a list item only occurs below a list (`Ast.scoped`; the one
structural precondition of the handler, `assert self.list_stack` - the parser creates `ListNodeItem`s only as children
of a `ListNode`), every page name, section and `upper`: the tree builder has no raising path, the handler's list stack
and formatting stack are never popped empty, every string-valued node is TEXT or PREFORMATTED - `render` returns. -/
theorem render_total (up : Char → Str) (name sec : Str) (ast : Ast) (h : ast.scoped false = true) :
    ∃ cs, render up name sec ast = .ok cs := by
  obtain ⟨k, hk, sk⟩ := toMan_scoped ast false h
  obtain ⟨st, hst⟩ := events_total up (.node (.manpage name sec) k) false {}
    (by simp [ManNode.scoped, isListHd, sk]) (by simp)
  exact ⟨st.out, by simp only [render, hk, ManNode.toTroff, hst]⟩

example : Ast.scoped false (.pass [.sect [.heading [.text ['T']], .list true [.listItem [.paragraph [.strong [.text ['a']]],
    .list false [.listItem [.code ['c']]]]], .target [.targetId [.text ['i']], .paragraph [.emphasis [.text ['d']]]]]]) = true := by
  decide +kernel

/-- the precondition is needed: a list item outside any list trips the handler's assertion (model and code agree) -/
theorem render_unscoped_refuted :
    render (fun c => [c]) ['x'] ['1'] (.pass [.listItem [.paragraph [.text ['a']]]]) = .error .assertionError := by rfl

/-- **The tree walk below any node is total and stack-neutral**: from ANY handler state, walking a scoped subtree returns
with the list stack and the formatting stack as they were. -/
theorem subtree_walk_total (up : Char → Str) (t : ManNode) (inList : Bool) (st : St) (hs : t.scoped inList = true)
    (hl : inList = true → st.lstack ≠ []) :
    ∃ st', run up st t.events = .ok st' ∧ st'.lstack = st.lstack ∧ st'.fstack = st.fstack := by
  obtain ⟨st', h⟩ := events_total up t inList st hs hl
  have hb := events_balanced up t _ _ h
  exact ⟨st', h, stacks_snd hb, stacks_fst hb⟩

/-- **The escape loses nothing.** Reading the output of `troff_escape` back the way groff reads it (`\e` backslash,
`\-` minus, `\(aq` apostrophe, `\'` acute, `\(ga` grave, `\&` nothing; any other escape is an error) gives exactly
the original text, for every text - whatever characters, line breaks or leading dots it contains. -/
theorem escape_roundtrip (s : Str) : unesc (troffEscape s) = some s := by
  simpa [unesc] using unesc_troffEscape_append s []

example : unesc (troffEscape "foo\n.bar a\\b 'q'\n'x -y `z´ \\&.".toList) = some "foo\n.bar a\\b 'q'\n'x -y `z´ \\&.".toList :=
  escape_roundtrip _
/-- the reader is not the identity and rejects escapes the renderer never writes -/
example : unesc "a\\-b".toList = some "a-b".toList ∧ unesc "a\\fBb".toList = none := by
  repeat rw [String.toList_ofList]
  decide +kernel

/-- **All text of the page is recoverable, in order.** The text chunks of a rendered page, read back as groff reads
them, are exactly the texts handed to `handle_text` during the walk, concatenated in walk order. -/
theorem text_recovered (up : Char → Str) (name sec : Str) (ast : Ast) (cs : List Chunk)
    (h : render up name sec ast = .ok cs) :
    ∃ k, ast.toMan = .ok k ∧ unesc (textOf cs) = some (evTexts (eventsL k)).flatten := by
  obtain ⟨k, hk, ht⟩ := text_in_order up name sec ast cs h
  exact ⟨k, hk, by rw [ht]; exact unesc_flatMap_troffEscape _⟩

/-- The escape is, character by character, the table of `troff_escape` plus the `\&` guard. -/
theorem escape_is_charwise (s : Str) : troffEscape s = guardGo true (s.flatMap esc1) := troffEscape_eq s

/-- D17 on the code before the fix: the paragraph text "foo⏎.bar baz" yields a *text* chunk holding
the line ".bar baz" (a troff request made of document text) … -/
theorem control_lines_refuted :
    renderOld (fun c => [c]) ['x'] ['1'] (.pass [.paragraph [.text "foo\n.bar baz".toList]])
      = .ok [.macro ".TH x 1\n".toList, .text "foo\n.bar baz".toList] := by
  repeat rw [String.toList_ofList]
  exact ok_of_decide (by decide +kernel)

/-- … so the chunk invariant fails there … -/
theorem chunks_wellformed_refuted :
    ¬ linesOk true [.macro ".TH x 1\n".toList, .text "foo\n.bar baz".toList] := by
  repeat rw [String.toList_ofList]
  intro h
  exact absurd (show scan _ _ = true from h.2.1) (by decide +kernel)

/-- … a single backslash passed through unescaped, and a section title kept its newline. -/
theorem backslash_refuted : troffEscapeOld ['a', '\\', 'b'] = ['a', '\\', 'b'] := by decide

theorem heading_refuted :
    renderOld (fun c => [c]) ['x'] ['1'] (.pass [.sect [.heading [.text "A\n.B".toList]]])
      = .ok [.macro ".TH x 1\n".toList, .macro ".SH A\n.B\n".toList] := by
  repeat rw [String.toList_ofList]
  exact ok_of_decide (by decide +kernel)

end SnootyVerif.C19
