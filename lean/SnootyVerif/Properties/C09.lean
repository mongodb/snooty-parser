import SnootyVerif.Proofs.Ids

/-!
# C09 — Anchor ids are unique within each built page

Property theorems only. Helper lemmas live in `Proofs/Ids.lean`, the model in
`Model/Ids.lean`.
-/
namespace SnootyVerif.C09
open SnootyVerif.Ids

/-- No two headings/collapsibles (resp. targets) of one page share an id,
for *every* sequence of base ids. -/
theorem assign_nodup (bases : List String) : (assignAll bases).Nodup :=
  (assignFrom_disjoint_nodup bases bases []).2

/-- one id per heading, in order -/
theorem assign_length (bases : List String) : (assignAll bases).length = bases.length :=
  assignFrom_length bases bases []

/-- The first occurrence of every distinct base id keeps the unsuffixed id. -/
theorem assign_first_keeps (pre post : List String) (b : String) (h : b ∉ pre) :
    (assignAll (pre ++ b :: post))[pre.length]? = some b := by
  unfold assignAll
  exact assignFrom_getElem _ pre post [] b (by simp) h (by simp)

/-- Every id is the node's own base id, or that base id followed by `-k`, `k ≥ 1`. -/
theorem assign_suffix_form (reserved issued : List String) (b : String) :
    assignOne reserved issued b = b ∨ ∃ k, 1 ≤ k ∧ assignOne reserved issued b = sfx b k :=
  (assignOne_cases reserved issued b).imp (·.2) fun ⟨k, hk, e, _⟩ => ⟨k, hk, e⟩

/-- Footnote reference ids of a page are pairwise distinct. -/
theorem footnotes_nodup (n : Nat) : (footnotes n).Nodup := by
  unfold footnotes
  rw [List.Nodup, List.pairwise_map]
  exact List.pairwise_lt_range.imp (fun h heq => by have := append_toString_inj "id" heq; omega)

/-- `make_html5_id` never returns the empty string … -/
theorem html5id_nonempty (isWord : Char → Bool) (s : List Char) : makeHtml5Id isWord s ≠ [] := by
  unfold makeHtml5Id
  simp only
  split
  · simp [unnamed]
  · rename_i h; intro h2; simp [h2] at h

/-- … and only returns characters of the id alphabet `[\w_.-]`
(`isWord` must accept the ASCII letters of the literal "unnamed"). -/
theorem html5id_valid (isWord : Char → Bool) (hW : ∀ c ∈ unnamed, isWord c = true) (s : List Char) :
    ∀ c ∈ makeHtml5Id isWord s, validIdChar isWord c = true := by
  unfold makeHtml5Id
  simp only
  split
  · intro c hc; simp [validIdChar, hW c hc]
  · intro c hc
    simp only [List.mem_map] at hc
    obtain ⟨a, _, rfl⟩ := hc
    split
    · assumption
    · simp [validIdChar]

/-- hence no whitespace, provided `\w` matches no whitespace (checked over all code points by the harness). -/
theorem html5id_no_space (isWord isSpace : Char → Bool) (hW : ∀ c ∈ unnamed, isWord c = true)
    (hd : ∀ c, isSpace c = true → validIdChar isWord c = false) (s : List Char) :
    ∀ c ∈ makeHtml5Id isWord s, isSpace c = false := by
  intro c hc
  have := html5id_valid isWord hW s c hc
  cases h : isSpace c
  · rfl
  · rw [hd c h] at this; cases this

/-- The counter scheme used before the fix produced duplicate heading ids … -/
theorem headingsOld_refuted : ¬ (headingsOld [] ["foo", "foo", "foo-1"]).Nodup := by decide +kernel

/-- … and duplicate target ids. -/
theorem targetsOld_refuted : ¬ (targetsOld [] ["a", "a", "a"]).Nodup := by decide +kernel

/-- non-vacuity: the colliding sequence of the refutation is handled. -/
example : assignAll ["foo", "foo", "foo-1"] = ["foo", "foo-2", "foo-1"] := by decide +kernel
example : assignAll ["a", "a", "a"] = ["a", "a-1", "a-2"] := by decide +kernel

end SnootyVerif.C09
