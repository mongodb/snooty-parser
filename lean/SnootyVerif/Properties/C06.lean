import SnootyVerif.Proofs.Include
import SnootyVerif.Proofs.IncludeSpec
import SnootyVerif.Proofs.IncludeExpand

/-!
# C06 — Include expansion transcludes exactly the included content, and terminates

Property theorems only (model: `Model/Include.lean`; lemmas: `Proofs/Include.lean`, `IncludeSpec.lean`, `IncludeExpand.lean`).
`cutList` is `IncludeHandler.bound_included_AST`; `expandPage` is the include pass over one page
with the circular-include guard of the `fix:` commit.
-/
namespace SnootyVerif.C06
open SnootyVerif.Include

/-- No markers requested/present: the included content is the whole file, unchanged. -/
theorem cut_none (ns : List T) (h1 : hasSL ns = false) (h2 : hasEL ns = false) :
    cutList ns = .ok (ns, false, false) :=
  cutList_none ns h1 h2

/-- The flags that drive the "could not find start-after/end-before text" diagnostics are exact:
a flag is true iff a node carrying that marker exists anywhere in the included forest. -/
theorem cut_flags (ns : List T) (out : List T) (s e : Bool) (h : cutList ns = .ok (out, s, e)) :
    s = hasSL ns ∧ e = hasEL ns :=
  cutList_flags ns _ h

/-- Nothing is invented, duplicated or reordered: the nodes kept are a subsequence (document order)
of the nodes of the included file. -/
theorem cut_sublist (ns : List T) (out : List T) (s e : Bool) (h : cutList ns = .ok (out, s, e)) :
    (flatL out).Sublist (flatL ns) :=
  cutList_sublist ns _ h

/-- The only exception `bound_included_AST` can raise is the "reversed markers" one, and only when
both markers are present (so it is always reported as `InvalidInclude`, never escapes). -/
theorem cut_error_only_reversed (ns : List T) (m : String) (h : cutList ns = .error m) :
    (hasSL ns = true ∧ hasEL ns = true) ∧ m = "start-after text should precede end-before text" :=
  cutList_error ns m h

/-- **Exactly the part between the markers.** For every included forest whose marker nodes contain
no further markers (`atomicL`; comments and label targets do not), with at most one start and at
most one end marker, not in reversed order: the cut succeeds, reports both found-flags exactly, and
the content units it keeps (document order; a marker or childless node is one unit) are precisely
`between` = from the start marker (or the beginning) through the end marker (or the end). -/
theorem cut_spec (ns : List T) (ha : atomicL ns = true)
    (hcS : (unitsL ns).countP pS ≤ 1) (hcE : (unitsL ns).countP pE ≤ 1)
    (hrev : reversed (unitsL ns) = false) :
    ∃ out, cutList ns = .ok (out, hasSL ns, hasEL ns) ∧ unitsL out = between (unitsL ns) := by
  have h := cutList_meets ns ha hcS hcE
  cases hc : cutList ns with
  | error e => simp [hc, hrev] at h
  | ok v =>
    rw [hc] at h
    have fl := cutList_flags ns v hc
    exact ⟨v.1, by rw [← fl.1, ← fl.2], h.2.1⟩

/-- **Reversed markers always raise** (and the raise is always caught and reported, see
`cut_error_only_reversed`): with at most one start and one end marker, an end marker placed before
the start marker makes `bound_included_AST` raise - at whatever depth the two markers sit. -/
theorem cut_reversed_raises (ns : List T) (ha : atomicL ns = true)
    (hcS : (unitsL ns).countP pS ≤ 1) (hcE : (unitsL ns).countP pE ≤ 1)
    (hrev : reversed (unitsL ns) = true) : ∃ m, cutList ns = .error m := by
  have h := cutList_meets ns ha hcS hcE
  cases hc : cutList ns with
  | error e => exact ⟨e, rfl⟩
  | ok v => simp [hc, hrev] at h

/-- **Nothing is invented about a bounded include**: a marker is reported as not found only when the included file holds
no such marker, the order is reported as wrong only when it holds both, and a wanted marker that the file does not hold
is always reported. -/
theorem cut_diags_sound (wantS wantE : Bool) (ns : List T) :
    (CutDiag.noStart ∈ cutDiags wantS wantE ns → wantS = true ∧ hasSL ns = false) ∧
    (CutDiag.noEnd ∈ cutDiags wantS wantE ns → wantE = true ∧ hasEL ns = false) ∧
    (CutDiag.reversed ∈ cutDiags wantS wantE ns → hasSL ns = true ∧ hasEL ns = true) := by
  rw [cutDiags_eq]
  split
  · rename_i m hm
    simp [(cutList_error ns m hm).1]
  · simp

theorem cut_diags_complete (wantS wantE : Bool) (ns : List T) :
    (wantS = true → hasSL ns = false → CutDiag.noStart ∈ cutDiags wantS wantE ns) ∧
    (wantE = true → hasEL ns = false → CutDiag.noEnd ∈ cutDiags wantS wantE ns) := by
  rw [cutDiags_eq]
  split
  · rename_i m hm
    simp [(cutList_error ns m hm).1]
  · simp +contextual

/-- The code before the repair: with the markers in the wrong order it also reported both of them as not found. -/
theorem cut_diags_old_invents :
    ∃ ns, hasSL ns = true ∧ hasEL ns = true ∧ CutDiag.noStart ∈ cutDiagsOld true true ns ∧ CutDiag.noEnd ∈ cutDiagsOld true true ns :=
  ⟨[.node ⟨0, false, true⟩ [], .node ⟨1, true, false⟩ []], by decide, by decide, by decide, by decide⟩

example : cutDiags true true [.node ⟨0, false, true⟩ [], .node ⟨1, true, false⟩ []] = [.reversed] := by decide
example : cutDiags true true [.node ⟨0, false, false⟩ [], .node ⟨1, true, false⟩ []] = [.noEnd] := by decide

/-- what `between` is, spelled out: units before the start marker and after the end marker are
gone, everything from the one to the other is kept in order -/
theorem between_explicit (pre mid post : List Tag) (s e : Tag)
    (hpre : pre.any pS = false) (hs : pS s = true) (hsE : pE s = false) (hmid : mid.any pE = false) (he : pE e = true) :
    between (pre ++ s :: (mid ++ e :: post)) = s :: (mid ++ [e]) := by
  have hS : fromS (pre ++ s :: (mid ++ e :: post)) = (s :: mid) ++ e :: post := by
    rw [fromS_append, hpre]; simp [fromS, hs]
  have hE : toE ((s :: mid) ++ e :: post) = s :: (mid ++ [e]) := by
    rw [toE_append]; simp [hsE, hmid, toE, he, takeThrough]
  rw [between, hS, hE]

/-- non-vacuity of `cut_spec`: the hypotheses hold for a nested example and the kept units are the
start marker, the node between, and the end marker -/
example : atomicL [.node ⟨0, false, false⟩ [], .node ⟨1, false, false⟩ [.node ⟨2, false, false⟩ [], .node ⟨3, true, false⟩ [.node ⟨9, false, false⟩ []]],
      .node ⟨4, false, false⟩ [], .node ⟨5, false, true⟩ [], .node ⟨6, false, false⟩ []] = true
    ∧ (between (unitsL [.node ⟨0, false, false⟩ [], .node ⟨1, false, false⟩ [.node ⟨2, false, false⟩ [], .node ⟨3, true, false⟩ [.node ⟨9, false, false⟩ []]],
      .node ⟨4, false, false⟩ [], .node ⟨5, false, true⟩ [], .node ⟨6, false, false⟩ []])).map (·.id) = [3, 4, 5] := by
  decide +kernel

/-- Include expansion terminates on EVERY include graph (self-inclusion, mutual inclusion, any
cycle): the fuel `room + 1` (number of files not yet on the stack) is never exhausted. -/
theorem expand_terminates (pages : Pages) (page : String) : (expandPage pages page).isSome := by
  unfold expandPage
  split
  · simp
  · exact expandFuel_isSome pages _ _ _ (Nat.lt_succ_self _)

/-- On an acyclic include graph (witnessed by any rank function decreasing along includes of
existing files) the circular-include guard never fires: no include is ever refused as circular, so
every include of an existing file is expanded, recursively. The only diagnostics are missing files. -/
theorem expand_acyclic_complete (pages : Pages) (rank : String → Nat) (hac : Acyclic pages rank)
    (page : String) (out : List Out) (ds : List Diag) (h : expandPage pages page = some (out, ds)) :
    ds.all (fun d => !d.isCircular) = true := by
  unfold expandPage at h
  split at h
  · cases h; rfl
  · rename_i body hb
    exact expandFuel_no_cycle pages rank hac _ [] page body (out, ds) hb
      (by intro s hs; simp at hs; subst hs; exact Nat.le_refl _) h

/-- non-vacuity: a diamond (index includes a and b, both include c) is acyclic with rank = depth -/
example : Acyclic [("index", [.inc 1 "a", .inc 2 "b"]), ("a", [.inc 3 "c"]), ("b", [.inc 4 "c"]), ("c", [.node 5 []])]
    (fun f => if f == "index" then 3 else if f == "c" then 1 else 2) :=
  acyclic_of_forall_mem (by decide +kernel)

/-- An include whose target is already being expanded is reported on the including file and left
unexpanded. -/
theorem expand_cycle_reported (pages : Pages) (rec : Rec) (stack : List String) (id : Nat) (t : String)
    (body : List Doc) (hl : lookup pages t = some body) (hs : stack.contains t = true) :
    expandIn pages rec stack (.inc id t) = some (.inc id t none, [.circular (stack.headD "") id]) := by
  simp only [expandIn, hl, hs, if_true]

/-- An include naming a missing file is reported on the including file; the walk continues. -/
theorem expand_missing_reported (pages : Pages) (rec : Rec) (stack : List String) (id : Nat) (t : String)
    (hl : lookup pages t = none) :
    expandIn pages rec stack (.inc id t) = some (.inc id t none, [.cannotOpen (stack.headD "") id]) := by
  simp [expandIn, hl]

/-- Before the fix (no guard) a self-including file exhausted every fuel: RecursionError. -/
theorem expandOld_diverges (fuel : Nat) (stack : List String) :
    expandFuelOld [("a", [.inc 0 "a"])] fuel stack [.inc 0 "a"] = none := by
  induction fuel generalizing stack with
  | zero => rfl
  | succ f ih =>
    simp only [expandFuelOld, expandInL, expandIn, lookup]
    simp [ih]

/-- non-vacuity: a two-file cycle expands, reporting the cycle in the inner file. -/
example : expandPage [("a", [.node 1 [], .inc 2 "b"]), ("b", [.inc 3 "a"])] "a"
    = some ([.node 1 [], .inc 2 "b" (some [.inc 3 "a" none])], [.circular "b" 3]) := by
  simp [expandPage, lookup, room, expandFuel, expandInL, expandIn]

/-- non-vacuity of the cut theorems: start marker in a nested list, end marker at top level;
kept = ancestor 1, marker 3, node 4, marker 5 (ids in document order). -/
example : cutSummary [.node ⟨0, false, false⟩ [], .node ⟨1, false, false⟩ [.node ⟨2, false, false⟩ [], .node ⟨3, true, false⟩ []],
                   .node ⟨4, false, false⟩ [], .node ⟨5, false, true⟩ [], .node ⟨6, false, false⟩ []]
    = some ([1, 3, 4, 5], true, true) := by decide +kernel

/-- reversed markers raise. -/
example : cutSummary [.node ⟨0, false, true⟩ [], .node ⟨1, true, false⟩ []] = none := by decide

end SnootyVerif.C06
