import SnootyVerif.Proofs.Refs
import SnootyVerif.Proofs.Ids
import SnootyVerif.Model.RoleText

/-!
# C08 — Cross-references resolve to the right target; resolved links never dangle

Property theorems only. Models: `Model/Targets.lean` (database, registration passes),
`Model/Refs.lean` (lookup, disambiguation, resolution, the passes as `run`);
helper lemmas: `Proofs/Targets.lean`, `Proofs/Refs.lean`.

`cands P db invs r` below is what `TargetDatabase.__getitem__` returns for the reference `r`;
`locals` its internal results, `here root` those registered under the referring root page.
-/
namespace SnootyVerif.C08
open SnootyVerif SnootyVerif.Targets SnootyVerif.Refs

/-- the candidates `self.targets[key]` of a reference -/
abbrev cands (P : Params) (db : Db) (invs : List Inventory) (r : Ref) : List Result :=
  lookup P.isSpace P.lower P.prefixes db invs (mkKey r.domain r.role r.target)

abbrev locals (cs : List Result) : List Result := cs.filter Result.isInternal
abbrev here (root : String) (cs : List Result) : List Result := (locals cs).filter (onPage root)

/-- `RefsHandler.enter_node` handles every `std:doc` role separately (page links, no anchor) -/
abbrev notDoc (r : Ref) : Prop := ¬ (r.domain = stdS ∧ r.role = docS)

/-! ## normalisation -/

/-- `normalize_target` is idempotent (`hB`: the blank is whitespace; checked on the running Python). -/
theorem normalize_idempotent (isSpace : Char → Bool) (hB : isSpace ' ' = true) (s : Str) :
    normalize isSpace (normalize isSpace s) = normalize isSpace s :=
  normAux_idem isSpace hB s false

/-- Two spellings that differ only in *which* and *how many* whitespace characters separate two
parts have the same normal form, hence the same database key. -/
theorem normalize_ws_insensitive (isSpace : Char → Bool) (a b ws₁ ws₂ : Str)
    (h₁ : ws₁ ≠ []) (h₂ : ws₂ ≠ []) (hs₁ : ∀ c ∈ ws₁, isSpace c = true) (hs₂ : ∀ c ∈ ws₂, isSpace c = true) :
    normalize isSpace (a ++ ws₁ ++ b) = normalize isSpace (a ++ ws₂ ++ b) := by
  unfold normalize
  rw [List.append_assoc, List.append_assoc]
  apply normAux_prefix
  intro f
  rw [normAux_ws isSpace ws₁ b h₁ hs₁, normAux_ws isSpace ws₂ b h₂ hs₂]

-- In the test vectors the kernel would evaluate `"…".toList` by decoding UTF-8 byte by byte, at many times the cost of running
-- the model; `rw [String.toList_ofList]` first puts the character list in place of a literal's `toList` (`rw` unifies a
-- literal with `String.ofList _`, `simp` does not).
example : normalize (fun c => c == ' ' || c == '\t') "a \t  b".toList = "a b".toList := by
  repeat rw [String.toList_ofList]
  decide +kernel
example : normalize (fun c => c == ' ' || c == '\t') "a\tb".toList = normalize (fun c => c == ' ' || c == '\t') "a   b".toList := by
  repeat rw [String.toList_ofList]
  decide +kernel

/-! ## pass 4: what is registered is emitted -/

/-- Every local definition `(page, html_id)` that pass 4 adds to the database belongs to a target
node of that very root page which carries that `html_id` (`outs` = the ids stored on the nodes). -/
theorem registered_anchor_emitted {isSpace isWord : Char → Bool} {ps : List Page} {db db' : Db}
    {outs : List (List (Option String))} (h : pass4 isSpace isWord db ps = .ok (db', outs))
    {k : Str} {d : LocalDef} (hd : d ∈ db'.get k) :
    d ∈ db.get k ∨ ∃ pl ∈ ps.zip outs, pl.1.slug = d.page ∧ some d.htmlId ∈ pl.2 :=
  pass4_mem h hd

/-- … and conversely every name of a target is found under its normalised key afterwards
(`define_local_target` on a non-empty name list). -/
theorem registered_is_found {isSpace : Char → Bool} {db db' : Db} {dom role : Str} {ts : List Str}
    {page : String} {title : Inls} {hid : String}
    (h : defineLocal isSpace db dom role ts page title hid = .ok db') {t : Str} (ht : t ∈ ts) :
    ∃ d ∈ db'.get (mkKey dom role (normalize isSpace t)), d.page = page ∧ d.htmlId = hid ∧ d.canonical ∈ ts := by
  obtain ⟨canon, hc, rfl⟩ := defineLocal_ok h
  exact ⟨_, mem_get_addAll.2 (.inr ⟨rfl, t, ht, rfl⟩), rfl, rfl, hc⟩

/-- the html ids handed out on one page are pairwise distinct (C09's `assign_unique_id`), so
"the target carrying this id" is a single node -/
theorem target_ids_nodup (isWord : Char → Bool) (items : List Item) :
    (Ids.assignAll (targetBases isWord items)).Nodup :=
  (Ids.assignFrom_disjoint_nodup _ _ []).2

/-! ## pass 5: resolution -/

/-- `target_candidates[-1]` is never applied to an empty list: resolution cannot raise. -/
theorem resolve_total (P : Params) (db : Db) (invs : List Inventory) (root : String) (r : Ref) :
    ∃ o, resolveRef P db invs root r = .ok o :=
  resolveRef_total P db invs root r

/-- A reference whose key has candidates gets the destination and canonical name of **one of those
candidates**; an internal destination `(slug, html_id)` is a local definition registered under the
reference's own normalised key, and the node's target becomes that definition's canonical name. -/
theorem resolves_to_own_definition {P : Params} {db : Db} {invs : List Inventory} {root : String}
    {r : Ref} {o : RefOut} (hdoc : notDoc r) (hne : cands P db invs r ≠ [])
    (h : resolveRef P db invs root r = .ok o) :
    (∃ res ∈ cands P db invs r, o.dest = res.dest ∧ o.target = res.canonical) ∧
    (∀ slug hid, o.dest = .fileid slug hid →
      ∃ d ∈ db.get (normalize P.isSpace (mkKey r.domain r.role r.target)),
        d.page = slug ∧ d.htmlId = hid ∧ d.canonical = o.target) := by
  obtain ⟨res, hres, ht, hd, _⟩ := resolveRef_found hdoc hne h
  exact ⟨⟨res, lastOf_pruned_mem hres, hd, ht⟩, fun _ _ => resolveRef_fileid h⟩

/-- Several local definitions, exactly one of them on the referring root page: that one is taken
and no `AmbiguousTarget` is reported. -/
theorem same_page_preferred {P : Params} {db : Db} {invs : List Inventory} {root : String}
    {r : Ref} {o : RefOut} {c : Result} (hdoc : notDoc r)
    (hmany : (locals (cands P db invs r)).length ≠ 1) (hone : here root (cands P db invs r) = [c])
    (h : resolveRef P db invs root r = .ok o) :
    o.dest = c.dest ∧ o.target = c.canonical ∧ (∃ hid, c.dest = .fileid root hid) ∧
      ∀ d ∈ o.diags, isAmbiguousDiag d = false := by
  obtain ⟨hd, ht, hno⟩ := resolveRef_decided hdoc (disambiguate_same_page hmany hone) h
  refine ⟨hd, ht, ?_, hno⟩
  have hon : onPage root c = true := (List.mem_filter.1 (hone ▸ List.mem_singleton_self c : c ∈ here root _)).2
  cases c with
  | internal s hid _ _ => exact ⟨hid, by rw [← beq_iff_eq.1 hon]; rfl⟩
  | external => cases hon

/-- A single local definition wins over inventory entries of the same name, silently. -/
theorem single_local_preferred {P : Params} {db : Db} {invs : List Inventory} {root : String}
    {r : Ref} {o : RefOut} {l : Result} (hdoc : notDoc r)
    (hone : locals (cands P db invs r) = [l]) (h : resolveRef P db invs root r = .ok o) :
    o.dest = l.dest ∧ o.target = l.canonical ∧ ∀ d ∈ o.diags, isAmbiguousDiag d = false :=
  resolveRef_decided hdoc (disambiguate_single_local hone) h

/-- More than one candidate and neither rule decides: `AmbiguousTarget` is reported, listing exactly
the candidates (in order), and the most recently defined candidate is linked. -/
theorem ambiguous_reported {P : Params} {db : Db} {invs : List Inventory} {root : String}
    {r : Ref} {o : RefOut} (hdoc : notDoc r) (hlen : (cands P db invs r).length > 1)
    (h1 : (locals (cands P db invs r)).length ≠ 1) (h2 : (here root (cands P db invs r)).length ≠ 1)
    (h : resolveRef P db invs root r = .ok o) :
    Diag.ambiguous r.role r.target ((cands P db invs r).map describe) ∈ o.diags ∧
      ∃ res, lastOf (cands P db invs r) = some res ∧ o.dest = res.dest ∧ o.target = res.canonical := by
  obtain ⟨res, hres, ht, hd, _, hamb, _⟩ := resolveRef_found hdoc (by intro he; simp [he] at hlen) h
  rw [pruned_eq_disambiguate, disambiguate_unchanged h1 h2] at hres hamb
  exact ⟨hamb hlen, res, hres, hd, ht⟩

/-- An undefined name (no local definition, no inventory entry) is reported as `TargetNotFound`
and gets neither a file id nor a url. -/
theorem undefined_reported {P : Params} {db : Db} {invs : List Inventory} {root : String}
    {r : Ref} {o : RefOut} (hdoc : notDoc r) (he : cands P db invs r = [])
    (h : resolveRef P db invs root r = .ok o) :
    o.dest = .none ∧ o.diags = [.notFound r.role r.target] ∧ o.target = r.target := by
  obtain ⟨a, b, c⟩ := resolveRef_notfound hdoc he h
  exact ⟨b, c, a⟩

/-- … and a defined name is never reported as not found. -/
theorem defined_not_reported {P : Params} {db : Db} {invs : List Inventory} {root : String}
    {r : Ref} {o : RefOut} (hdoc : notDoc r) (hne : cands P db invs r ≠ [])
    (h : resolveRef P db invs root r = .ok o) :
    o.dest ≠ .none ∧ ∀ d ∈ o.diags, isNotFoundDiag d = false := by
  obtain ⟨res, _, _, hd, _, _, _, hnf⟩ := resolveRef_found hdoc hne h
  refine ⟨?_, hnf⟩
  rw [hd]; cases res <;> simp [Result.dest]

/-- Explicit link text (children that offer no empty slot for a title) is left untouched, for
every role and every outcome. -/
theorem explicit_text_kept {P : Params} {db : Db} {invs : List Inventory} {root : String}
    {r : Ref} {o : RefOut} (hexp : injectable r.kids = false)
    (h : resolveRef P db invs root r = .ok o) : o.kids = r.kids := by
  by_cases hdoc : r.domain = stdS ∧ r.role = docS
  · rw [resolveRef_doc hdoc] at h; cases h; rfl
  · by_cases he : cands P db invs r = []
    · obtain ⟨_, e⟩ := resolveRef_nil (root := root) hdoc he
      rw [e] at h; cases h
      exact inject_not_injectable _ _ hexp
    · obtain ⟨_, _, e⟩ := resolveRef_cons (root := root) hdoc he
      rw [e] at h; cases h
      exact inject_not_injectable _ _ hexp

/-- Without explicit text the (copied) title of the chosen definition is put into the innermost
empty slot; under `~` its first text node is abbreviated. -/
theorem title_injected {P : Params} {db : Db} {invs : List Inventory} {root : String}
    {r : Ref} {o : RefOut} (hdoc : notDoc r) (hne : cands P db invs r ≠ []) (hinj : injectable r.kids = true)
    (h : resolveRef P db invs root r = .ok o) :
    ∃ res ∈ cands P db invs r, o.dest = res.dest ∧
      o.kids = inject r.kids (if r.flag.contains '~' then abbreviate P.isSpace res.title else res.title) := by
  obtain ⟨res, hres, _, hd, hk, _⟩ := resolveRef_found hdoc hne h
  exact ⟨res, lastOf_pruned_mem hres, hd, by rw [hk, if_pos hinj]⟩

/-! ## whole run: links never dangle -/

/-- Every reference that `run` resolves to an internal link `(slug, html_id)` names a root page of
the build, and that page either emits a target node carrying `html_id` or (`std:doc` key collision
only) the definition is one of the page-level registrations of pass 3. -/
theorem resolved_never_dangles {P : Params} {invs : List Inventory} {pages : List Page} {out : Output}
    (h : run P invs pages = .ok out) :
    ∃ ps db3, titled pages = .ok ps ∧ pass3Docs P.isSpace P.isWord [] ps = .ok db3 ∧
      ∀ os ∈ out.refs, ∀ x ∈ os, ∀ slug hid, x.2.2.dest = .fileid slug hid →
        slug ∈ pages.map Page.slug ∧
        ((∃ pl ∈ ps.zip out.htmlIds, pl.1.slug = slug ∧ some hid ∈ pl.2) ∨
         (∃ k, ∃ d ∈ db3.get k, d.page = slug ∧ d.htmlId = hid)) := by
  revert h
  fun_cases run P invs pages <;> intro h <;> cases h
  next ps hps db3 h3 db4 ids h4 refs h5 =>
    refine ⟨ps, db3, hps, h3, fun os hos x hx slug hid hdest => ?_⟩
    obtain ⟨p, hp, r, _, _, hr⟩ := pass5_mem ps h5 os hos x hx
    obtain ⟨d, hdm, rfl, rfl, _⟩ := resolveRef_fileid hr hdest
    have hsl := titled_slugs pages hps
    rcases pass4_mem h4 hdm with h6 | ⟨pl, hpl, hs, hm⟩
    · rcases pass3Docs_mem ps h3 h6 with h7 | h7
      · cases h7
      · exact ⟨by rw [← hsl]; exact h7, .inr ⟨_, d, h6, rfl, rfl⟩⟩
    · refine ⟨?_, .inl ⟨pl, hpl, hs, hm⟩⟩
      rw [← hsl, ← hs]
      exact List.mem_map_of_mem (List.of_mem_zip hpl).1

/-- Every id in a page's on-this-page list is the id of one of that page's headings
(ids as made unique by `HeadingHandler`, C09). -/
theorem contents_ids_exist (items : List Item) (l : List (Nat × String)) (h : contentsOf items = some l) :
    ∀ x ∈ l, x.2 ∈ Ids.assignAll (headingBases items) := by
  intro x hx
  unfold contentsOf at h
  simp only at h
  split at h
  · split at h
    · cases h
    · cases h
      exact (contentsAux_mem _ _ _ _ _ _ x (List.mem_filter.1 hx).1).resolve_left nofun
  · cases h

/-! ## parse-time half: role text → target / label / flag -/

section RoleText
open SnootyVerif.RoleText

theorem findOpen_none_of_not_mem : ∀ (text : RoleText.Str) (prev : Char), '<' ∉ text → findOpen prev text = none
  | [], _, _ => rfl
  | c :: rest, prev, h => by
    have hc : c ≠ '<' := fun e => h (by simp [e])
    have hr : '<' ∉ rest := fun e => h (by simp [e])
    simp [findOpen, hc, findOpen_none_of_not_mem rest c hr]

/-- Role text without `<` is the target itself (no label is invented). -/
theorem role_no_angle_is_target (isSpace : Char → Bool) (text : RoleText.Str) (h : '<' ∉ text) :
    parseExplicit isSpace text = (unescape text, none) := by
  unfold parseExplicit
  rw [findOpen_none_of_not_mem text 'x' h]

/-- Removing a callable's argument list only ever drops a suffix of the name. -/
theorem strip_params_is_prefix (isSpace : Char → Bool) (t : RoleText.Str) : stripParams isSpace t <+: t := by
  have rstrip_prefix (s : RoleText.Str) : rstrip isSpace s <+: s := by
    simpa [rstrip] using List.reverse_prefix.2 (List.dropWhile_suffix (l := s.reverse) isSpace)
  unfold stripParams
  split
  · split
    · exact (rstrip_prefix _).trans (List.take_prefix _ _)
    · exact List.prefix_refl _
  · exact List.prefix_refl _

/-- **The reference side and the definition side agree on the name.** The directive of a prefixed object registers
`prefix.name` for every written `name`; a plain reference written as `name` (no label, no flag, no escapes) links
`prefix.name` too - unless the name already spells the prefix out (`prefix.`), in which case it is kept. In particular a
name that merely BEGINS with the letters of the prefix (`bindiff` for the prefix `bin`) gets the prefix like any other
(it used not to: fix in /repo). -/
theorem role_prefix_agrees_with_directive (isSpace : Char → Bool) (pfx name : RoleText.Str) (hp : pfx ≠ [])
    (hparse : parseExplicit isSpace name = (name, none))
    (hflag : ∀ r, name ≠ '~' :: r ∧ name ≠ '!' :: r) :
    (roleParse isSpace pfx .plain name).target =
      if (pfx ++ ['.']).isPrefixOf name then name else pfx ++ '.' :: name := by
  unfold roleParse
  rw [hparse]
  dsimp only
  split
  · exact absurd rfl (hflag _).1
  · exact absurd rfl (hflag _).2
  · by_cases hpre : (pfx ++ ['.']).isPrefixOf name = true
    · simp [hpre]
    · have : pfx.isEmpty = false := by cases pfx <;> simp_all
      simp [hpre, this]

example : (roleParse (· == ' ') "bin".toList .plain "bindiff".toList).target = "bin.bindiff".toList := by
  repeat rw [String.toList_ofList]
  decide +kernel
example : (roleParse (· == ' ') "bin".toList .plain "bin".toList).target = "bin.bin".toList := by
  repeat rw [String.toList_ofList]
  decide +kernel

example : roleParse (· == ' ') [] .callable "the finder <~db.coll.find(a, b)>".toList =
    ⟨"db.coll.find".toList, some "the finder".toList, "~".toList⟩ := by
  repeat rw [String.toList_ofList]
  decide +kernel
example : roleParse (· == ' ') "dbcmd".toList .plain "!find".toList = ⟨"dbcmd.find".toList, none, "!".toList⟩ := by
  repeat rw [String.toList_ofList]
  decide +kernel
example : roleParse (· == ' ') "dbcmd".toList .plain "dbcmd.find".toList = ⟨"dbcmd.find".toList, none, []⟩ := by
  repeat rw [String.toList_ofList]
  decide +kernel
example : roleParse (· == ' ') [] .cmdlineOption "mongod  --port".toList =
    ⟨"mongod.--port".toList, some "mongod  --port".toList, []⟩ := by
  repeat rw [String.toList_ofList]
  decide +kernel
/-- a signature that wraps over two lines is stripped like one on a single line (before the repair it was kept) -/
example : stripParams (fun c => c == ' ' || c == '\n') "db.foo(a,\nb)".toList = "db.foo".toList ∧
    stripParamsOld (fun c => c == ' ' || c == '\n') "db.foo(a,\nb)".toList = "db.foo(a,\nb)".toList := by
  repeat rw [String.toList_ofList]
  decide +kernel
/-- an escaped `<` does not open a target -/
example : (parseExplicit (· == ' ') ['a', ' ', nul, '<', 'b', ' ', '<', 'c', '>']) = ("c".toList, some "a <b".toList) := by decide +kernel
end RoleText

/-! ## non-vacuity: a two-page project -/

section Example
def sp (c : Char) : Bool := c == ' ' || c == '\t'
def exP : Params := ⟨sp, fun c => c.isAlphanum, fun s => s.map Char.toLower, []⟩
def lbl (name : String) (title : String) : Item :=
  .target stdS labelS [⟨[name.toList], if title = "" then .nil else .cons (.text title.toList) .nil⟩]
def mkRef (rid : Nat) (target : String) (kids : Inls) (flag : String := "") : Item :=
  .ref "f" ⟨rid, stdS, labelS, target.toList, flag.toList, kids⟩
def exPages : List Page :=
  [⟨"index", [lbl "a b" "Index A", lbl "a b" "", .heading 1 "h" (.cons (.text "H".toList) .nil),
              mkRef 1 "a \t b" .nil, mkRef 2 "c" .nil, mkRef 3 "nope" (.cons (.text "kept".toList) .nil)]⟩,
   ⟨"page1", [lbl "a b" "Other A", lbl "c" "x.y.Short", mkRef 4 "a b" .nil, mkRef 5 "c" (.cons (.wrap "literal" .nil) .nil) "~"]⟩]

def destsOf (o : Except PyErr Output) : List (List (Nat × Dest)) :=
  match o with
  | .ok out => out.refs.map (fun l => l.map (fun x => (x.2.1, x.2.2.dest)))
  | .error _ => []

/-- index: "a \t b" has three definitions, two on index ⇒ ambiguous, last one (page1) taken; "c" is
unique; "nope" undefined. page1: "a b" has exactly one same-page definition ⇒ taken. -/
example : destsOf (run exP [] exPages) =
    [[(1, .fileid "page1" "std-label-a-b"), (2, .fileid "page1" "std-label-c"), (3, .none)],
     [(4, .fileid "page1" "std-label-a-b"), (5, .fileid "page1" "std-label-c")]] := by decide +kernel

/-- the ids stored on the nodes: the second "a b" of index gets the suffix -/
example : (match run exP [] exPages with | .ok out => out.htmlIds | .error _ => []) =
    [[some "std-label-a-b", some "std-label-a-b-1"], [some "std-label-a-b", some "std-label-c"]] := by decide +kernel

/-- title injection: the title-less label before the heading takes the heading's title; `~` abbreviates -/
example : (match run exP [] exPages with
    | .ok out => out.refs.map (fun l => l.map (fun x => x.2.2.kids)) | .error _ => []) =
    [[.cons (.text "Other A".toList) .nil, .cons (.text "x.y.Short".toList) .nil, .cons (.text "kept".toList) .nil],
     [.cons (.text "Other A".toList) .nil, .cons (.wrap "literal" (.cons (.text "Short".toList) .nil)) .nil]] := by decide +kernel

example : (match run exP [] exPages with
    | .ok out => out.refs.map (fun l => l.map (fun x => x.2.2.diags)) | .error _ => []) =
    [[[.ambiguous labelS "a \t b".toList ["index", "index", "page1"]], [], [.notFound labelS "nope".toList]], [[], []]] := by decide +kernel

/-- hypotheses of `same_page_preferred` / `ambiguous_reported` / `undefined_reported` hold on it -/
example : ∃ db, (match run exP [] exPages with | .ok out => out.db | .error _ => []) = db ∧
    (locals (cands exP db [] ⟨4, stdS, labelS, "a b".toList, [], .nil⟩)).length = 3 ∧
    (here "page1" (cands exP db [] ⟨4, stdS, labelS, "a b".toList, [], .nil⟩)).length = 1 ∧
    (here "index" (cands exP db [] ⟨1, stdS, labelS, "a \t b".toList, [], .nil⟩)).length = 2 ∧
    cands exP db [] ⟨3, stdS, labelS, "nope".toList, [], .nil⟩ = [] := ⟨_, rfl, by decide +kernel⟩

/-- an inventory entry under the lower-cased key competes with nothing local: resolved to its url;
next to one local definition the local one wins -/
def exInv : Inventory := [("std:label:c".toList, ⟨"C".toList, "std:label".toList, "https://x/#c", none⟩)]
example : (resolveRef exP [] [exInv] "index" ⟨1, stdS, labelS, "C".toList, [], .nil⟩).toOption.map (·.dest) =
    some (.url "https://x/#c") := by
  unfold exInv
  repeat rw [String.toList_ofList]
  decide +kernel
example : destsOf (run exP [exInv] [⟨"index", [lbl "c" "t", mkRef 1 "c" .nil]⟩]) = [[(1, .fileid "index" "std-label-c")]] := by decide +kernel

/-- on-this-page list: depth filter and unique ids -/
example : contentsOf [.heading 1 "t" .nil, .contents (some 1), .heading 2 "h" .nil, .heading 2 "h" .nil, .heading 3 "deep" .nil]
    = some [(2, "h"), (2, "h-1")] := by decide +kernel
end Example

end SnootyVerif.C08
