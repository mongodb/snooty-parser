import SnootyVerif.Proofs.Indent
import SnootyVerif.Proofs.Sections
import SnootyVerif.Proofs.Escape
import SnootyVerif.Proofs.DocLang
import SnootyVerif.Proofs.Visitor

/-!
# C03 — Parse fidelity: the AST mirrors the document's structure, text and lines

Property theorems only.  Kernels: `Model/Indent.lean` (`get_indented` & co.), `Model/Sections.lean`
(section levels from adornment styles), `Model/Escape.lean` (backslash escapes, explicit titles);
the language model `Model/DocLang.lean` (`render` / `expected`) is the oracle of the end-to-end
differential in `harness/props/c03.py`.  `isSpace` is Python's `str.isspace` / `\s`.
-/
namespace SnootyVerif.C03
open SnootyVerif

/-! ## indented blocks -/
section indent
open SnootyVerif.Indent

/-- `get_indented()` with nothing known (block quotes, literal blocks, definitions): the block is
`data[start:stop]` with `indent` columns removed (if `strip_indent`); every collected line is
indented or empty, and blank or indented by at least `indent`; the line at `stop` (if any) is not
indented (or, with `until_blank`, blank); `indent` is the minimum indentation of the non-blank
lines (0 if there is none). -/
theorem getIndented_spec (isSpace : Char → Bool) (data : List Line) (start : Nat) (ub si : Bool) :
    let r := getIndented isSpace data start ub si none none
    let slice := (data.take r.stop).drop start
    r.block = slice.map (fun l => l.drop (if si then r.indent else 0)) ∧
    (∀ l ∈ slice, unindented isSpace none l = false ∧
        (isBlank isSpace l = true ∨ r.indent ≤ indentOf isSpace l)) ∧
    (∀ h : r.stop < data.length,
        unindented isSpace none data[r.stop] = true ∨ (ub = true ∧ isBlank isSpace data[r.stop] = true)) ∧
    ((∃ l ∈ slice, isBlank isSpace l = false ∧ indentOf isSpace l = r.indent) ∨
      (r.indent = 0 ∧ ∀ l ∈ slice, isBlank isSpace l = true)) ∧
    (r.stop = data.length → r.blankFinish = true) := by
  intro r slice
  have hind : r.indent = (indents isSpace slice).min?.getD 0 := getIndented_indent_none isSpace data start ub si none
  have hmin : (∀ l ∈ slice, isBlank isSpace l = true ∨ r.indent ≤ indentOf isSpace l) ∧
      ((∃ l ∈ slice, isBlank isSpace l = false ∧ indentOf isSpace l = r.indent) ∨
        (r.indent = 0 ∧ ∀ l ∈ slice, isBlank isSpace l = true)) := by
    rw [hind]
    cases hm : (indents isSpace slice).min? with
    | none => exact ⟨fun l hl => .inl (indents_min?_eq_none.1 hm l hl), .inr ⟨rfl, indents_min?_eq_none.1 hm⟩⟩
    | some m =>
      obtain ⟨hatt, hle⟩ := indents_min?_eq_some.1 hm
      exact ⟨fun l hl => (Bool.eq_false_or_eq_true _).imp_right (hle l hl), .inl hatt⟩
  refine ⟨?_, fun l hl => ⟨(getIndented_taken isSpace data start ub si none none l hl).1, hmin.1 l hl⟩,
    getIndented_stops isSpace data start ub si none none, hmin.2,
    fun he => getIndented_eof _ _ _ _ _ _ _ (Nat.le_of_eq he.symm)⟩
  exact getIndented_block isSpace data start ub si none none

example : getIndented (fun c => c == ' ')
    ["x".toList, "   a".toList, "".toList, "     b".toList, "  ".toList, "c".toList] 1 false true none none
    = ⟨["a".toList, [], "  b".toList, []], 3, true, 5⟩ := by decide +kernel

/-- `get_known_indented(indent)` (list items whose text starts on the marker line): the indent is
the given one, every line after the first is empty or starts with `indent` whitespace columns the
first of which is a space, and the block is the slice with exactly `indent` columns removed from every line. -/
theorem getIndented_known_spec (isSpace : Char → Bool) (data : List Line) (start b : Nat) (ub : Bool)
    (hstart : start < data.length) :
    let r := getIndented isSpace data start ub true (some b) none
    let slice := (data.take r.stop).drop start
    r.indent = b ∧ r.block = slice.map (fun l => l.drop b) ∧ start < r.stop ∧
    (∀ l ∈ (data.take r.stop).drop (start + 1), unindented isSpace (some b) l = false) ∧
    (∀ h : r.stop < data.length,
        unindented isSpace (some b) data[r.stop] = true ∨ (ub = true ∧ isBlank isSpace data[r.stop] = true)) := by
  intro r slice
  refine ⟨getIndented_indent_some _ _ _ _ _ _ _, ?_, ?_,
    fun l hl => (getIndented_taken isSpace data start ub true (some b) none l hl).1,
    getIndented_stops isSpace data start ub true (some b) none⟩
  · -- (no use of `hstart`: an empty slice gives an empty block)
    refine (getIndented_block isSpace data start ub true (some b) none).trans ?_
    rw [getIndented_indent_some]
    exact trimLeft_dropFirst b _
  · have : r.stop = start + 1 + _ := getIndented_stop isSpace data start ub true (some b) none
    omega

-- In the test vectors the kernel would evaluate `"…".toList` by decoding UTF-8 byte by byte, at many times the cost of running
-- the model; `rw [String.toList_ofList]` first puts the character list in place of a literal's `toList` (`rw` unifies a
-- literal with `String.ofList _`, `simp` does not).
example : getIndented (fun c => c == ' ')
    ["- item".toList, "  more".toList, "".toList, "   deep".toList, " x".toList] 0 false true (some 2) none
    = ⟨["item".toList, "more".toList, [], " deep".toList], 2, false, 4⟩ := by
  repeat rw [String.toList_ofList]
  decide +kernel

/-- Every parameter combination: line `i` of the returned block is a right part of source line
`start + i` (nothing is dropped, duplicated or reordered, so `input_offset = start` is the right
offset for a nested parse), and the block has exactly `min stop len - start` lines. -/
theorem getIndented_offset (isSpace : Char → Bool) (data : List Line) (start : Nat) (ub si : Bool)
    (bi fi : Option Nat) :
    let r := getIndented isSpace data start ub si bi fi
    r.block.length = min r.stop data.length - start ∧
    ∀ (i : Nat) (h : i < r.block.length), ∃ (h' : start + i < data.length) (k : Nat),
      r.block[i] = (data[start + i]).drop k := by
  intro r
  have ht := getIndented_trimmed isSpace data start ub si bi fi
  have hlen : r.block.length = min r.stop data.length - start := by
    rw [ht.length, List.length_drop, List.length_take]
  refine ⟨hlen, fun i h => ?_⟩
  obtain ⟨k, hk⟩ := ht.getElem _ _ i h (ht.length _ _ ▸ h)
  exact ⟨by omega, k, by simpa using hk⟩

/-- the untrimmed block is a contiguous part of the input: no line comes from elsewhere -/
theorem getIndented_sublist (isSpace : Char → Bool) (data : List Line) (start : Nat) (ub si : Bool)
    (bi fi : Option Nat) :
    let r := getIndented isSpace data start ub si bi fi
    ((data.take r.stop).drop start).Sublist data ∧ r.block.length ≤ data.length - start := by
  intro r
  refine ⟨(List.drop_sublist _ _).trans (List.take_sublist _ _), ?_⟩
  have := (getIndented_offset isSpace data start ub si bi fi).1
  show (getIndented isSpace data start ub si bi fi).block.length ≤ data.length - start
  omega

/-- the three `StateMachine` wrappers: line `i` of the block they return comes from input line
`offset - input_offset + i`, where `offset` is the value they return for `input_offset=` of the
nested parse (leading blank lines stripped are counted). -/
theorem stripTop_offset (isSpace : Char → Bool) (data : List Line) (lineOffset inputOffset : Nat)
    (block : List Line) (hr : ∀ (i : Nat) (h : i < block.length), ∃ (h' : lineOffset + i < data.length) (k : Nat),
      block[i] = (data[lineOffset + i]).drop k) (strip : Bool) :
    let t := if strip then stripTop isSpace block (lineOffset + inputOffset) else (block, lineOffset + inputOffset)
    ∀ (i : Nat) (h : i < t.1.length), ∃ (h' : t.2 - inputOffset + i < data.length) (k : Nat),
      t.1[i] = (data[t.2 - inputOffset + i]).drop k := by
  -- both cases drop some `k0` lines from the block and add `k0` to the offset
  suffices ∀ k0 (i : Nat) (h : i < (block.drop k0).length),
      ∃ (h' : lineOffset + inputOffset + k0 - inputOffset + i < data.length) (k : Nat),
        (block.drop k0)[i] = (data[lineOffset + inputOffset + k0 - inputOffset + i]).drop k by
    cases strip
    · exact this 0
    · simp only [↓reduceIte, stripTop_eq]; exact this _
  intro k0 i h
  obtain ⟨h', k, hk⟩ := hr (k0 + i) (by rw [List.length_drop] at h; omega)
  have he : lineOffset + inputOffset + k0 - inputOffset + i = lineOffset + (k0 + i) := by omega
  exact ⟨he ▸ h', k, by simp only [List.getElem_drop, he]; exact hk⟩

theorem smGetFirstKnownIndented_offset (isSpace : Char → Bool) (sm : SM) (indent : Nat) (ub si st : Bool) :
    let g := smGetFirstKnownIndented isSpace sm indent ub si st
    ∀ (i : Nat) (h : i < g.block.length), ∃ (h' : g.offset - sm.inputOffset + i < sm.lines.length) (k : Nat),
      g.block[i] = (sm.lines[g.offset - sm.inputOffset + i]).drop k :=
  stripTop_offset isSpace sm.lines sm.lineOffset sm.inputOffset _
    (getIndented_offset isSpace sm.lines sm.lineOffset ub si none (some indent)).2 st

theorem smGetKnownIndented_offset (isSpace : Char → Bool) (sm : SM) (indent : Nat) (ub si : Bool) :
    let g := smGetKnownIndented isSpace sm indent ub si
    ∀ (i : Nat) (h : i < g.block.length), ∃ (h' : g.offset - sm.inputOffset + i < sm.lines.length) (k : Nat),
      g.block[i] = (sm.lines[g.offset - sm.inputOffset + i]).drop k :=
  stripTop_offset isSpace sm.lines sm.lineOffset sm.inputOffset _
    (getIndented_offset isSpace sm.lines sm.lineOffset ub si (some indent) none).2 true

theorem smGetIndented_offset (isSpace : Char → Bool) (sm : SM) (ub si : Bool) :
    let g := smGetIndented isSpace sm ub si
    ∀ (i : Nat) (h : i < g.block.length), ∃ (h' : g.offset - sm.inputOffset + i < sm.lines.length) (k : Nat),
      g.block[i] = (sm.lines[g.offset - sm.inputOffset + i]).drop k :=
  stripTop_offset isSpace sm.lines sm.lineOffset sm.inputOffset _
    (getIndented_offset isSpace sm.lines sm.lineOffset ub si none none).2 true

example : smGetFirstKnownIndented (fun c => c == ' ')
    ⟨[".. note::".toList, "".toList, "   body".toList, "".toList, "after".toList], 0, 7⟩ 9 false true true
    = ⟨["body".toList, []], 3, 9, true, 3⟩ := by
  repeat rw [String.toList_ofList]
  decide +kernel

end indent

/-! ## section levels -/
section sections
open SnootyVerif.Sections

/-- Rendering any section tree with any injective assignment of adornment styles to depths and
parsing the skeleton back yields the tree: the nesting is by title level, no title is rejected,
the root machine is never stopped, and the styles are registered in depth order. -/
theorem sections_roundtrip (σ : Nat → Style) (hσ : Injective σ) (t : Doc) :
    (parseSkeleton (renderSkeleton σ t)).doc = docNodes t ∧
    (parseSkeleton (renderSkeleton σ t)).halted = false ∧
    ∃ n, (parseSkeleton (renderSkeleton σ t)).styles = stylesUpTo σ n := by
  obtain ⟨n, cur, inner, he, _, _, hc⟩ := run_renderSkeleton hσ t
  simp only [parseSkeleton, he, List.append_nil]
  exact ⟨hc, trivial, n, rfl⟩

def exStyle (d : Nat) : Style := ⟨Char.ofNat (33 + d), if d % 2 = 0 then some (Char.ofNat (33 + d)) else none⟩

example : (parseSkeleton (renderSkeleton exStyle
    ⟨1, [.mk 2 [.mk 0 [.mk 1 []], .mk 0 []], .mk 0 [.mk 0 []]]⟩)).doc =
    docNodes ⟨1, [.mk 2 [.mk 0 [.mk 1 []], .mk 0 []], .mk 0 [.mk 0 []]]⟩ := by rfl

/-- A known style used below a skipped level (its level is more than one deeper than the current
section) only adds the SEVERE "Title level inconsistent" message: nothing else changes. -/
theorem sections_inconsistent (st : St) (s : Style) (i : Nat) (hh : st.halted = false)
    (hi : indexOf s st.memo.styles = some i) (hskip : st.memo.level + 1 < i + 1) :
    step st (Ev.title s) = { st with cur := st.cur ++ [Node.inconsistent] } := by
  simp only [step, hh, Bool.false_eq_true, if_false, titleEvent]
  rw [check_skip _ _ i hi (by omega)]

/-- A new style where deeper levels already have styles is rejected the same way. -/
theorem sections_inconsistent_new (st : St) (s : Style) (hh : st.halted = false)
    (hi : indexOf s st.memo.styles = none) (hlen : st.memo.styles.length ≠ st.memo.level) :
    step st (Ev.title s) = { st with cur := st.cur ++ [Node.inconsistent] } := by
  simp only [step, hh, Bool.false_eq_true, if_false, titleEvent]
  rw [check_new_bad _ _ hi hlen]

/-- For every event list the `EOFError` of a bubbling title is caught by some enclosing
`new_subsection`: it never reaches the root machine (which would silently drop the rest). -/
theorem sections_never_halt (evs : List Ev) : (parseSkeleton evs).halted = false :=
  (run_inv evs init inv_init).1

example : (parseSkeleton [.title ⟨'=', none⟩, .title ⟨'-', none⟩, .title ⟨'~', none⟩,
    .title ⟨'=', none⟩, .title ⟨'~', none⟩, .title ⟨'^', none⟩]).doc =
    [.sec [.sec [.sec []]], .sec [.inconsistent, .inconsistent]] := by rfl

/-- The level of a style is its position in `title_styles`; the list only grows, by appending a
style at the first title that is accepted with it, and never holds a style twice. -/
theorem sections_first_appearance (evs : List Ev) :
    (parseSkeleton evs).styles.Nodup ∧ ∀ s ∈ (parseSkeleton evs).styles, Ev.title s ∈ evs := by
  obtain ⟨hn, hm⟩ := run_styles evs init inv_init List.nodup_nil
  exact ⟨hn, fun s hs => (hm s hs).resolve_left List.not_mem_nil⟩

example : (parseSkeleton [.title ⟨'=', none⟩, .other, .title ⟨'-', none⟩, .title ⟨'=', none⟩,
    .title ⟨'-', none⟩, .title ⟨'~', some '~'⟩]).styles = [⟨'=', none⟩, ⟨'-', none⟩, ⟨'~', some '~'⟩] := by
  decide

/-- `render_injective`, the part that is proved: with an injective style assignment two different
section trees never render to the same title skeleton (the expectation is determined by the text).
For whole documents injectivity of `render` is validated by the differential only. -/
theorem render_injective_partial (σ : Nat → Style) (hσ : Injective σ) (t₁ t₂ : Doc)
    (h : renderSkeleton σ t₁ = renderSkeleton σ t₂) : t₁ = t₂ := by
  apply docNodes_inj
  rw [← (sections_roundtrip σ hσ t₁).1, ← (sections_roundtrip σ hσ t₂).1, h]

example : renderSkeleton exStyle ⟨0, [.mk 1 [.mk 0 []]]⟩ ≠ renderSkeleton exStyle ⟨0, [.mk 1 [], .mk 0 []]⟩ := by decide

end sections

/-! ## escapes and explicit titles -/
section escape
open SnootyVerif.Escape

/-- `escape2null` never changes the length: one NUL per escaping backslash -/
theorem escape2null_length (t : Str) : (escape2null t).length = t.length := by
  fun_induction escape2null t <;> simp_all

/-- text without backslashes (and without NUL) passes `escape2null` + `unescape` unchanged -/
theorem unescape_escape2null_id (t : Str) (restore : Bool) (hb : '\\' ∉ t) (hn : NUL ∉ t) :
    unescape (escape2null t) restore = t := by
  rw [escape2null_noBackslash t hb, unescape_noNUL t restore hn]

/-- restoring mode is the exact inverse of `escape2null` on NUL-free text -/
theorem unescape_restore_escape2null (t : Str) (hn : NUL ∉ t) : unescape (escape2null t) true = t := by
  simp only [unescape, if_true]; exact restore_escape2null t hn

example : unescape (escape2null "a\\*b\\ c\\\\d".toList) false = "a*bc\\d".toList := by
  repeat rw [String.toList_ofList]
  decide +kernel
example : unescape (escape2null "a\\*b\\ c\\\\d".toList) true = "a\\*b\\ c\\\\d".toList := by
  rw [String.toList_ofList]
  decide +kernel

/-- `label <target>`: for a label without `<` that does not end in whitespace and any target,
the explicit-title recogniser returns exactly (target, label) (after `unescape_backslashes`). -/
theorem explicitTitle_roundtrip (isSpace : Char → Bool) (label target : Str) (hsp : isSpace ' ' = true)
    (hlt : '<' ∉ label) (hl : ∀ c, label.getLast? = some c → isSpace c = false) :
    parseExplicitTitle isSpace (label ++ ' ' :: '<' :: (target ++ ['>'])) =
      (unescapeBackslashes target, some (unescapeBackslashes label)) := by
  have hs : label ++ ' ' :: '<' :: (target ++ ['>']) = (label ++ [' ']) ++ '<' :: (target ++ ['>']) := by simp
  rw [parseExplicitTitle, hs, explicitTitle_split _ _ _ (by simpa using hlt) (by simp [NUL]),
    rstrip_append isSpace label [' '] (by simpa using hsp) hl]

theorem explicitTitle_roundtrip_plain (isSpace : Char → Bool) (label target : Str) (hsp : isSpace ' ' = true)
    (hlt : '<' ∉ label) (hl : ∀ c, label.getLast? = some c → isSpace c = false)
    (hn1 : NUL ∉ label) (hn2 : NUL ∉ target) :
    parseExplicitTitle isSpace (label ++ ' ' :: '<' :: (target ++ ['>'])) = (target, some label) := by
  rw [explicitTitle_roundtrip isSpace label target hsp hlt hl,
    unescapeBackslashes_noNUL _ hn1, unescapeBackslashes_noNUL _ hn2]

example : parseExplicitTitle (fun c => c == ' ') "Some label </path/to>".toList =
    ("/path/to".toList, some "Some label".toList) := by
  repeat rw [String.toList_ofList]
  decide +kernel
example : parseExplicitTitle (fun c => c == ' ') "no title here >".toList = ("no title here >".toList, none) := by
  rw [String.toList_ofList]
  decide +kernel

end escape

/-! ## the language model: the oracle is self-consistent -/
section doclang
open SnootyVerif.DocLang

/-- For every document tree and every layout: each node of the expected AST that reports a line
(paragraph, directive, code block, label, heading) names exactly the line of the rendered text on
which the model says it starts — the first line of a paragraph with its list marker / indentation,
the `.. name::` line of a directive or code block, the `.. _label:` line, the underline of a title.
So an expectation mismatch found by the differential is a statement about the rendered text. -/
theorem render_lines (ℓ : Layout) (bs : List Blk) :
    ∀ n ∈ flatList (expected ℓ bs), ∀ ln txt, n.claim = some (ln, txt) → (render ℓ bs)[ln]? = some txt :=
  fun n hn ln txt hc => (render_consistent ℓ bs n hn ln txt hc).2

/-- the same for a block rendered anywhere: claims are relative to the line the block starts on -/
theorem render_lines_block (ℓ : Layout) (b : Blk) (start : Nat) :
    ∀ n ∈ flatList (emit ℓ start b).nodes, ∀ ln txt, n.claim = some (ln, txt) →
      start ≤ ln ∧ (emit ℓ start b).lines[ln - start]? = some txt :=
  emit_consistent ℓ b start

def claims (ns : List ENode) : List (Nat × String) := (flatList ns).filterMap ENode.claim

def exLayout : Layout := ⟨0, 0, 3, 1, 1, 0, 0, false, 0⟩
def exDoc : List Blk :=
  [.section [.text "Title"] '=' true
    [.para [.text "alpha", .sp, .emph "beta", .nl, .text "gamma"],
     .bullet '-' [.item [.para [.text "one"]], .item [.para [.text "two"], .label "lbl"]],
     .directive "note" "" [.text "Arg"] [("class", "x", .str "x")] [.para [.text "body"]]]]

example : render exLayout exDoc =
    ["=====", "Title", "=====", "", "alpha *beta*", "gamma", "", "- one", "", "- two", "", "  .. _lbl:", "",
     ".. note:: Arg", "   :class: x", "", "   body"] := by decide +kernel

example : claims (expected exLayout exDoc) =
    [(2, "====="), (4, "alpha *beta*"), (7, "- one"), (9, "- two"), (11, "  .. _lbl:"), (13, ".. note:: Arg"),
     (16, "   body")] := by decide +kernel

/-- Character data is unchanged apart from markup delimiters and escaping backslashes: the text
nodes the oracle expects for an inline sequence (paragraph, title, term, line, directive argument)
concatenate to exactly the character data of its items, in order (adjacent pieces merged, role
targets that become attributes excluded). `fmtOk`: no role is formatted with a wrapper called "text". -/
theorem expected_text_preserved (xs : List Inl) (h : ∀ x ∈ xs, fmtOk x) :
    nodesText (inlNodes xs) = inlsText xs := by
  rw [inlNodes, clearList_text, mergeToks_text, toksText_inlTok xs h, String.empty_append]

example : nodesText (inlNodes [.text "a", .esc "*", .text "b", .sp, .emph "em", .nl,
      .role "ref" (some "Label") "tgt" ⟨"ref", "std", "label", "", "", none⟩, .sp, .literal "x\\y"]) =
    "a*b em\nLabel x\\y" := by decide +kernel

end doclang

/-! ## nesting and reading order are what the visitor's node stack builds

The AST is assembled by `JSONVisitor` with a push/pop stack. On the model of that stack (`Model/Visitor.lean`; tied to
the code by the path translator `Gen/VisitPaths.lean`, theorem `C01.visit_paths_balanced`, and by the recorded walks of
`./check C01`), for EVERY docutils tree: the node built for a docutils node holds exactly what its subtree contributes, in
document order; nodes the visitor skips contribute nothing, transparent wrappers contribute what their children do. -/
section visitor
open SnootyVerif.Visitor

/-- nesting mirrors the document: the walk equals the stack-free specification -/
theorem visitor_nesting (d : DNode) (top : T) (rest : List T) (hb : balanced d = true) (ht : termsOk top.kind d = true) :
    walk (top :: rest) d = .ok (attachAllT top (emit d) :: rest) := walk_spec d top rest hb ht

/-- reading order: nothing is reordered or duplicated -/
theorem visitor_reading_order (d : DNode) (h : plain d = true) : (idsL (emit d)).Sublist d.ids := emit_ids_sublist d h

/-- nothing is invented -/
theorem visitor_ids_from_doctree (d : DNode) (i : Nat) (h : i ∈ idsL (emit d)) : i ∈ d.ids := emit_ids_mem d i h

/-- two paragraphs under a section, the second followed by a skipped comment: ids in document order -/
example : (emit (.mk 1 1 .normal .parent false
    [.mk 2 1 .normal .parent false [.mk 3 1 .normal .leaf false []], .mk 4 0 .skipNode .parent false [],
     .mk 5 1 .normal .parent false [.mk 6 1 .normal .leaf false []]])).map T.ids = [[1, 2, 3, 5, 6]] := by decide

end visitor

end SnootyVerif.C03
